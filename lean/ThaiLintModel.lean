import ThaiLintModel.Core.Tree
import ThaiLintModel.Core.Glob
import ThaiLintModel.Core.GlobLemmas
import ThaiLintModel.Core.ListLemmas
import ThaiLintModel.Core.OrchLemmas
import ThaiLintModel.C01.Props
import ThaiLintModel.C11.Props
import ThaiLintModel.C12.Props
import ThaiLintModel.C13.Props
import ThaiLintModel.C14.Props
import ThaiLintModel.C15.Props
import ThaiLintModel.C07.Props
import ThaiLintModel.C08.Props
import ThaiLintModel.C10.Props
import ThaiLintModel.C05.Props
import ThaiLintModel.C06.Props
import ThaiLintModel.C09.Props
import ThaiLintModel.C02.Props
import ThaiLintModel.C03.Props
import ThaiLintModel.C04.Props
import ThaiLintModel.C16.Props
import ThaiLintModel.C17.Props
import ThaiLintModel.C18.Props
import ThaiLintModel.C19.Props
import ThaiLintModel.C20.Props
