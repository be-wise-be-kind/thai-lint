/-
C01 — what the property theorems rest on: the three regenerated node-type tables (each evaluated once,
on the node types the parse shapes use), a few facts about `max`, the lower bounds of the
specification depth, the general facts about `tsVisit`, and, per language, what the visit records on
the fixed pieces of the parse shape (call statement, condition, block, `else`/`finally`/default
wrappers, `elif` chain).
-/
import ThaiLintModel.C01.Model
import ThaiLintModel.Gen.Nesting
namespace ThaiLintModel.C01
open ThaiLintModel

def incTs (ty : String) : Bool := Gen.Nesting.tsNestingTypes.contains ty
def incRs (ty : String) : Bool := Gen.Nesting.rsNestingTypes.contains ty
def pyCs (ty : String) : Bool := Gen.Nesting.pyControlStructures.contains ty

/-! ### The regenerated tables on the node types the parse shapes use

`simp` looks a node type up in these statements (as `local simp` lemmas), never in the tables themselves. -/

theorem incTs_table :
    (∀ ty ∈ ["if_statement", "for_statement", "for_in_statement", "do_statement", "while_statement",
              "try_statement", "switch_statement"], incTs ty = true) ∧
    (∀ ty ∈ ["statement_block", "else_clause", "catch_clause", "finally_clause", "switch_body", "switch_case",
              "switch_default", "break_statement", "expression_statement", "call_expression", "arguments",
              "parenthesized_expression", "lexical_declaration", "variable_declarator", "binary_expression",
              "update_expression"], incTs ty = false) := by decide +kernel

theorem incRs_table :
    (∀ ty ∈ ["if_expression", "while_expression", "loop_expression", "for_expression", "match_expression",
              "closure_expression"], incRs ty = true) ∧
    (∀ ty ∈ ["block", "else_clause", "match_block", "match_arm", "match_pattern", "let_declaration",
              "expression_statement", "call_expression", "arguments", "binary_expression", "range_expression",
              "closure_parameters"], incRs ty = false) := by decide +kernel

/-- what the proofs need from the regenerated `_CONTROL_STRUCTURES` table
    (since the repair of F01b `match_case` is no control structure: a `match` counts one level) -/
theorem pyCs_table :
    (∀ ty ∈ ["For", "While", "With", "AsyncWith", "Try", "Match"], pyCs ty = true) ∧
    (∀ ty ∈ ["Expr", "Call", "Name", "Load", "Store", "withitem", "ExceptHandler", "MatchValue", "match_case",
              "Constant"], pyCs ty = false) := by decide +kernel

theorem pyCs_MatchAs : pyCs "MatchAs" = false := by decide +kernel

/-! ### `max` -/

theorem max_absorb_left {a b : Nat} (c : Nat) (h : a ≤ b) : max a (max b c) = max b c := by
  rw [← Nat.max_assoc, Nat.max_eq_right h]

theorem max_absorb_right {a c : Nat} (b : Nat) (h : c ≤ a) : max a (max b c) = max a b := by
  rw [Nat.max_comm b, ← Nat.max_assoc, Nat.max_eq_left h]

theorem max_max_distrib (a b c : Nat) : max a (max b c) = max (max a b) (max a c) := by
  rw [Nat.max_assoc, Nat.max_left_comm b a c, max_absorb_left _ (Nat.le_refl a)]

/-- `max e x + 1 = max (e+1) X` says that `X` is `x` one level further down, with the level itself counted
    on both sides (so that the depth 0 of an empty body is covered); `max` keeps this relation. -/
theorem shift_max {e x y X Y : Nat} (hx : max e x + 1 = max (e+1) X) (hy : max e y + 1 = max (e+1) Y) :
    max e (max x y) + 1 = max (e+1) (max X Y) := by
  rw [max_max_distrib, max_max_distrib (e+1), ← hx, ← hy, Nat.add_max_add_right]

/-! The same without the shift: two depths that agree once the level `e` is counted in. -/

theorem clamp_max {e x y X Y : Nat} (hx : max e x = max e X) (hy : max e y = max e Y) :
    max e (max x y) = max e (max X Y) := by
  rw [max_max_distrib, hx, hy, ← max_max_distrib]

/-- entering a construct whose content reaches at least one level further down -/
theorem clamp_enter {d v D : Nat} (h : max (d+1) v = max (d+1) D) (hD : d+1 ≤ D) :
    max d (max (d+1) v) = max d D := by
  rw [h, Nat.max_eq_right hD]

/-! ### The specification depth: never below the depth it starts from; one level further down -/

theorem Body.eq_nil_of_isNil {b : Body} (h : b.isNil = true) : b = .nil := by
  cases b with
  | nil => rfl
  | cons c r => cases h

theorem le_docC (m d : Nat) : (c : Ctl) → d ≤ docC m d c
  | .stmt => by
      rw [docC]
      exact Nat.le_refl d
  | .ifc .. | .loop .. | .wth .. | .tryc .. | .mtch .. | .clos .. => by
      rw [docC]
      exact Nat.le_max_left ..

theorem le_docB (m d : Nat) (b : Body) (h : b.isNil = false) : d ≤ docB m d b := by
  cases b with
  | nil => cases h
  | cons c r =>
    rw [docB]
    exact Nat.le_trans (le_docC m d c) (Nat.le_max_left ..)

theorem le_docA (m d : Nat) (a : Arms) {l : Lang} (h : a.isNil = false) (hw : wfA l a = true) :
    d ≤ docA m d a := by
  cases a with
  | nil => cases h
  | cons b r =>
    simp [wfA] at hw
    rw [docA]
    exact Nat.le_trans (le_docB m d b hw.1.1) (Nat.le_max_left ..)

theorem docA_ite_isNil (m d : Nat) (a : Arms) : (if a.isNil then 0 else docA m d a) = docA m d a := by
  cases a <;> rfl

/-! Moving a construct one level deeper raises everything inside it by one.  For a body or a list of
arms, which may be empty (depth 0 wherever they stand), this holds with the level counted in. -/
mutual
  theorem doc_shift_C (m d : Nat) : (c : Ctl) → docC m (d+1) c = docC m d c + 1
    | .stmt => by rw [docC, docC]
    | .ifc a b c => by
        rw [docC, docC]
        exact (shift_max (shift_B ..) (shift_max (shift_A ..) (shift_B ..))).symm
    | .loop _ a b => by
        rw [docC, docC]
        exact (shift_max (shift_B ..) (shift_B ..)).symm
    | .wth _ a => by
        rw [docC, docC]
        exact (shift_B ..).symm
    | .tryc a b c e => by
        rw [docC, docC]
        exact (shift_max (shift_B ..) (shift_max (shift_A ..)
          (shift_max (shift_B ..) (shift_B ..)))).symm
    | .mtch a b => by
        rw [docC, docC, Nat.add_right_comm d 1 m]
        exact (shift_max (shift_A ..) (shift_B ..)).symm
    | .clos a => by
        rw [docC, docC]
        exact (shift_B ..).symm
  theorem shift_B (m d : Nat) : (b : Body) → (e : Nat) → max e (docB m d b) + 1 = max (e+1) (docB m (d+1) b)
    | .nil, e => by rw [docB, docB, Nat.max_zero, Nat.max_zero]
    | .cons c r, e => by
        rw [docB, docB, doc_shift_C m d c]
        exact shift_max (Nat.add_max_add_right ..).symm (shift_B m d r e)
  theorem shift_A (m d : Nat) : (a : Arms) → (e : Nat) → max e (docA m d a) + 1 = max (e+1) (docA m (d+1) a)
    | .nil, e => by rw [docA, docA, Nat.max_zero, Nat.max_zero]
    | .cons b r, e => by
        rw [docA, docA]
        exact shift_max (shift_B m d b e) (shift_A m d r e)
end

/-! ### `visit_node` on an arbitrary table

`simp` evaluates the visit on the explicit nodes of a parse shape with the equations of `tsVisit` and
`tsVisitL` and the table; `max_absorb_left` / `max_absorb_right` drop what a token or a condition records
beside a body that reaches at least as deep (the bound is handed to `simp` as a hypothesis). -/

section treesitter
attribute [local simp] tsl TSL.ofList tsVisit tsVisitL max_absorb_left max_absorb_right

section visit
variable (inc : String → Bool) (d : Nat)

@[simp] theorem tsVisit_tk (s : String) : tsVisit inc d (tk s) = d := by
  simp [tk]

theorem le_tsVisit (t : TS) : d ≤ tsVisit inc d t := by
  cases t
  rw [tsVisit]
  exact Nat.le_max_left ..

@[simp] theorem tsVisitL_append (b : TSL) :
    (a : TSL) → tsVisitL inc d (a ++ b) = max (tsVisitL inc d a) (tsVisitL inc d b)
  | .nil => by simp
  | .cons h t => by simp [tsVisitL_append b t, Nat.max_assoc]

theorem tsVisitL_braces (s s' : String) (kids : TSL) :
    tsVisitL inc d (.cons (tk s) (kids ++ tsl [tk s'])) = max d (tsVisitL inc d kids) := by
  simp

end visit

/-! ### TypeScript: the fixed pieces of the parse shape -/

attribute [local simp] incTs_table

@[simp] theorem tsVisit_tsCall (d : Nat) : tsVisit incTs d tsCall = d := by
  simp [tsCall]

@[simp] theorem tsVisit_tsParen (d : Nat) : tsVisit incTs d tsParen = d := by
  simp [tsParen]

@[simp] theorem tsVisit_tsBlockOf (d : Nat) (kids : TSL) :
    tsVisit incTs d (tsBlockOf kids) = max d (tsVisitL incTs d kids) := by
  simp [tsBlockOf]

/-- `else { … }` and `else if …` record what the statements of the branch record: the clause and the block are
    not nesting types, and the first statement already records the depth of the tokens around it. -/
@[simp] theorem tsVisitL_toTsElse (d : Nat) (els : Body) :
    tsVisitL incTs d (toTsElse els) = tsVisitL incTs d (toTsB els) := by
  unfold toTsElse
  split
  · rw [toTsB]
  · simp [toTsB, le_tsVisit]
  · simp [toTsB, le_tsVisit]

@[simp] theorem tsVisitL_toTsFinally (d : Nat) (fin : Body) :
    tsVisitL incTs d (toTsFinally fin) = tsVisitL incTs d (toTsB fin) := by
  cases fin with
  | nil => rw [toTsFinally, toTsB]
  | cons c r => simp [toTsFinally, toTsB, le_tsVisit]

@[simp] theorem tsVisitL_tsDefault (d : Nat) (kids : TSL) :
    tsVisitL incTs d (tsDefault kids) = tsVisitL incTs d kids := by
  cases kids with
  | nil => rw [tsDefault]
  | cons h t => simp [tsDefault, le_tsVisit]

/-! ### Rust: the fixed pieces of the parse shape -/

attribute [local simp] incRs_table

@[simp] theorem tsVisit_rsCall (d : Nat) : tsVisit incRs d rsCall = d := by
  simp [rsCall]

@[simp] theorem tsVisit_rsCond (d : Nat) : tsVisit incRs d rsCond = d := by
  simp [rsCond]

@[simp] theorem tsVisit_rsBlockOf (d : Nat) (kids : TSL) :
    tsVisit incRs d (rsBlockOf kids) = max d (tsVisitL incRs d kids) := by
  simp [rsBlockOf]

/-- the statement wrapper (`expression_statement`, `let … = …;`) records nothing deeper than the expression -/
@[simp] theorem tsVisit_toRs (d : Nat) (c : Ctl) : tsVisit incRs d (toRs c) = tsVisit incRs d (toRsE c) := by
  cases c with
  | stmt => rw [toRs, toRsE]
  | clos body => simp [toRs, le_tsVisit]
  | _ => simp [toRs, rsExprStmt, le_tsVisit]

@[simp] theorem tsVisitL_toRsElse (d : Nat) (els : Body) :
    tsVisitL incRs d (toRsElse els) = tsVisitL incRs d (toRsB els) := by
  unfold toRsElse
  split
  · rw [toRsB]
  · simp [toRsB, le_tsVisit]
  · simp [toRsB, le_tsVisit]

@[simp] theorem tsVisitL_rsDefault (d : Nat) (kids : TSL) :
    tsVisitL incRs d (rsDefault kids) = tsVisitL incRs d kids := by
  cases kids with
  | nil => rw [rsDefault]
  | cons h t => simp [rsDefault, le_tsVisit]

end treesitter

/-! ### Python -/

@[simp] theorem pyVisitL_append (cs : String → Bool) (d : Nat) (b : PyL) :
    (a : PyL) → pyVisitL cs d (a ++ b) = max (pyVisitL cs d a) (pyVisitL cs d b)
  | .nil => by simp [pyVisitL]
  | .cons h t => by simp [pyVisitL, pyVisitL_append cs d b t, Nat.max_assoc]

/-- deepest record among the bodies of a list of arms (`elif` arms, `except` handlers, `case` arms) -/
def pyArms (cs : String → Bool) (d : Nat) : Arms → Nat
  | .nil => 0
  | .cons b r => max (pyVisitL cs d (toPyB b)) (pyArms cs d r)

/-- an `if` that is no `elif` records its own depth and goes on as an `elif` one level further down -/
theorem pyVisit_if (cs : String → Bool) (d : Nat) (t : Py) (body orelse : PyL) :
    pyVisit cs d false (.ifn t body orelse) = max (d+1) (pyVisit cs (d+1) true (.ifn t body orelse)) := by
  cases orelse with
  | nil => simp [pyVisit]
  | cons h tl => cases h <;> cases tl <;> simp [pyVisit]

/-- only an `if` skeleton has an `ast.If` as its parse tree -/
theorem toPyB_ne_if {els : Body} (hs : els.singleIf = false) (t : Py) (b o : PyL) :
    toPyB els = .cons (.ifn t b o) .nil → False := by
  intro h
  cases els with
  | nil => simp [toPyB] at h
  | cons c r =>
    cases r with
    | cons _ _ => simp [toPyB] at h
    | nil =>
      cases c with
      | ifc _ _ _ => simp [Body.singleIf] at hs
      | loop k _ _ => cases k <;> simp [toPyB, toPy] at h
      | _ => simp [toPyB, toPy, pyStmt] at h

/-- an if/elif/…/else chain: every arm and the else branch are visited at the *same* depth
    (`_is_elif_chain`; the else branch of a well-formed skeleton is no single `if`) -/
theorem pyVisit_elif_chain (cs : String → Bool) (d : Nat) {els : Body} (hs : els.singleIf = false) (t : Py) :
    (thn : Body) → (elifs : Arms) →
      pyVisit cs d true (.ifn t (toPyB thn) (toPyElifs elifs (toPyB els))) =
        max (pyVisitL cs d (toPyB thn)) (max (pyArms cs d elifs) (pyVisitL cs d (toPyB els)))
  | thn, .nil => by simp [toPyElifs, pyArms, pyVisit.eq_2 _ _ _ _ _ _ (toPyB_ne_if hs)]
  | thn, .cons e r => by simp [toPyElifs, pyArms, pyVisit, pyVisit_elif_chain cs d hs pyName e r]

/-! Nodes that are no control structure record nothing. -/

attribute [local simp] pyVisit pyVisitL pyCs_table

@[simp] theorem pyVisit_pyName (d : Nat) (e : Bool) : pyVisit pyCs d e pyName = 0 := by
  simp [pyName]

@[simp] theorem pyVisit_pyStmt (d : Nat) (e : Bool) : pyVisit pyCs d e pyStmt = 0 := by
  simp [pyStmt]

@[simp] theorem py_handlers (d : Nat) :
    (hs : Arms) → pyVisitL pyCs d (toPyHandlers hs) = pyArms pyCs d hs
  | .nil => by simp [toPyHandlers, pyArms]
  | .cons b r => by simp [toPyHandlers, pyArms, py_handlers d r]

@[simp] theorem py_cases (d : Nat) :
    (a : Arms) → pyVisitL pyCs d (toPyCases a) = pyArms pyCs d a
  | .nil => by simp [toPyCases, pyArms]
  | .cons b r => by simp [toPyCases, pyArms, py_cases d r]

@[simp] theorem py_default (d : Nat) (kids : PyL) : pyVisitL pyCs d (pyDefaultCase kids) = pyVisitL pyCs d kids := by
  cases kids with
  | nil => rw [pyDefaultCase]
  | cons h t => simp [pyDefaultCase, pyCs_MatchAs]

end ThaiLintModel.C01
