/-
C01 — property theorems (helper lemmas live in `Lemmas.lean`).
All theorems quantify over *every* skeleton, depth and limit: proofs are by mutual structural
induction over `Ctl / Body / Arms`; the node-type tables are the regenerated ones (`Gen.Nesting`).
-/
import ThaiLintModel.C01.Lemmas
namespace ThaiLintModel.C01
open ThaiLintModel

theorem Arms.eq_nil_of_isNil {a : Arms} (h : a.isNil = true) : a = .nil := by
  cases a with
  | nil => rfl
  | cons b r => cases h

attribute [local simp] docC docB docA

/-! ## TypeScript / JavaScript : the analyzer computes exactly the documented depth

Every construct goes the same way: `simp` unfolds its parse shape and evaluates the visit on it (the
equations of `tsVisit`, the table, the lemmas on the fixed pieces), puts in the induction hypotheses,
and lets the non-empty principal body (`hT`: it reaches at least the depth of the construct's
children) absorb what the header tokens and the condition record. -/

section ts
attribute [local simp] tsl TSL.ofList tsVisit tsVisitL max_absorb_left max_absorb_right incTs_table

mutual
  theorem ts_C (d : Nat) : (c : Ctl) → wfC .ts c = true → tsVisit incTs d (toTs c) = docC 1 d c
    | .stmt, _ => by simp [toTs]
    | .ifc thn elifs els, h => by
        simp [wfC] at h
        obtain ⟨⟨⟨⟨hne, hthn⟩, _⟩, hels⟩, helifs⟩ := h
        have hT := le_docB 1 (d+1) thn hne
        simp [toTs, Arms.eq_nil_of_isNil helifs, ts_B (d+1) thn hthn, ts_B (d+1) els hels, hT]
    | .loop k body els, h => by
        simp [wfC] at h
        obtain ⟨⟨⟨⟨hk, hne⟩, hbody⟩, _⟩, hels⟩ := h
        have hT := le_docB 1 (d+1) body hne
        cases k with
        | loopL => simp [loopOk] at hk
        | _ => simp [toTs, Body.eq_nil_of_isNil hels, ts_B (d+1) body hbody, hT]
    | .wth _ _, h => by simp [wfC] at h
    | .clos _, h => by simp [wfC] at h
    | .tryc body hs els fin, h => by
        simp [wfC] at h
        obtain ⟨⟨⟨⟨⟨hne, hbody⟩, hhs⟩, _⟩, hfin⟩, ⟨⟨hels, hlen⟩, _⟩⟩ := h
        have hT := le_docB 1 (d+1) body hne
        simp [toTs, Body.eq_nil_of_isNil hels, ts_B (d+1) body hbody, ts_H (d+1) hs hhs hlen, ts_B (d+1) fin hfin, hT]
    | .mtch cases dflt, h => by
        simp [wfC] at h
        obtain ⟨⟨hne, hcases⟩, hdflt⟩ := h
        have hA := le_docA 1 (d+1) cases hne hcases
        simp [toTs, ts_A (d+1) cases hcases, ts_B (d+1) dflt hdflt, hA]
  theorem ts_B (d : Nat) : (b : Body) → wfB .ts b = true → tsVisitL incTs d (toTsB b) = docB 1 d b
    | .nil, _ => by simp [toTsB]
    | .cons c r, h => by
        simp [wfB] at h
        simp [toTsB, ts_C d c h.1, ts_B d r h.2]
  /-- at most one `catch` clause -/
  theorem ts_H (d : Nat) : (a : Arms) → wfA .ts a = true → a.len ≤ 1 →
      tsVisitL incTs d (toTsCatch a) = docA 1 d a
    | .nil, _, _ => by simp [toTsCatch]
    | .cons b .nil, h, _ => by
        simp [wfA] at h
        have hT := le_docB 1 d b h.1
        simp [toTsCatch, ts_B d b h.2, hT]
    | .cons _ (.cons _ _), _, hl => by simp [Arms.len] at hl
  theorem ts_A (d : Nat) : (a : Arms) → wfA .ts a = true → tsVisitL incTs d (toTsCases a) = docA 1 d a
    | .nil, _ => by simp [toTsCases]
    | .cons b r, h => by
        simp [wfA] at h
        obtain ⟨⟨hne, hb⟩, hr⟩ := h
        have hT := le_docB 1 d b hne
        simp [toTsCases, ts_B d b hb, ts_A d r hr, hT]
end

theorem ts_Cases (d : Nat) : (a : Arms) → wfA .ts a = true →
    tsVisitL incTs d (toTsCases a) = if a.isNil then 0 else docA 1 d a
  | a, h => by rw [docA_ite_isNil, ts_A d a h]

end ts


/-! ## Rust : the analyzer computes exactly the documented depth -/

section rs
attribute [local simp] tsl TSL.ofList tsVisit tsVisitL max_absorb_left max_absorb_right incRs_table

mutual
  theorem rs_E (d : Nat) : (c : Ctl) → wfC .rs c = true → tsVisit incRs d (toRsE c) = docC 1 d c
    | .stmt, _ => by simp [toRsE]
    | .ifc thn elifs els, h => by
        simp [wfC] at h
        obtain ⟨⟨⟨⟨hne, hthn⟩, _⟩, hels⟩, helifs⟩ := h
        have hT := le_docB 1 (d+1) thn hne
        simp [toRsE, Arms.eq_nil_of_isNil helifs, rs_B (d+1) thn hthn, rs_B (d+1) els hels, hT]
    | .loop k body els, h => by
        simp [wfC] at h
        obtain ⟨⟨⟨⟨hk, hne⟩, hbody⟩, _⟩, hels⟩ := h
        have hT := le_docB 1 (d+1) body hne
        cases k with
        | forL | whileL | loopL => simp [toRsE, Body.eq_nil_of_isNil hels, rs_B (d+1) body hbody, hT]
        | _ => simp [loopOk] at hk
    | .wth _ _, h => by simp [wfC] at h
    | .tryc _ _ _ _, h => by simp [wfC] at h
    | .clos body, h => by
        simp [wfC] at h
        have hT := le_docB 1 (d+1) body h.1
        simp [toRsE, rs_B (d+1) body h.2, hT]
    | .mtch cases dflt, h => by
        simp [wfC] at h
        obtain ⟨⟨hne, hcases⟩, hdflt⟩ := h
        have hA := le_docA 1 (d+1) cases hne hcases
        simp [toRsE, rs_A (d+1) cases hcases, rs_B (d+1) dflt hdflt, hA]
  theorem rs_B (d : Nat) : (b : Body) → wfB .rs b = true → tsVisitL incRs d (toRsB b) = docB 1 d b
    | .nil, _ => by simp [toRsB]
    | .cons c r, h => by
        simp [wfB] at h
        simp [toRsB, rs_E d c h.1, rs_B d r h.2]
  theorem rs_A (d : Nat) : (a : Arms) → wfA .rs a = true → tsVisitL incRs d (toRsArms a) = docA 1 d a
    | .nil, _ => by simp [toRsArms]
    | .cons b r, h => by
        simp [wfA] at h
        obtain ⟨⟨hne, hb⟩, hr⟩ := h
        have hT := le_docB 1 d b hne
        simp [toRsArms, rs_B d b hb, rs_A d r hr, hT]
end

theorem rs_Arms (d : Nat) : (a : Arms) → wfA .rs a = true →
    tsVisitL incRs d (toRsArms a) = if a.isNil then 0 else docA 1 d a
  | a, h => by rw [docA_ite_isNil, rs_A d a h]

end rs


/-! ## Python : the analyzer is characterised exactly

Visited from the same depth, the Python analyzer records exactly the documented depths (`py_docC`;
for a body or a list of arms, which may be empty, with the level itself counted on both sides).
But it starts the function body at depth 0 where the documentation starts at 1 (finding F01a), so
by `doc_shift_C` everything it reports is one less. -/

section py
attribute [local simp] pyVisit pyVisitL pyCs_table

mutual
  theorem py_docC (d : Nat) : (c : Ctl) → wfC .py c = true →
      max d (pyVisit pyCs d false (toPy c)) = docC 1 d c
    | .stmt, _ => by simp [toPy]
    | .ifc thn elifs els, h => by
        simp [wfC] at h
        obtain ⟨⟨⟨⟨hne, hthn⟩, helifs⟩, hels⟩, hsingle⟩ := h
        have hD := le_docB 1 (d+1) thn hne
        have ih := clamp_max (py_docB (d+1) thn hthn) (clamp_max (py_docA (d+1) elifs helifs) (py_docB (d+1) els hels))
        rw [toPy, pyVisit_if, pyVisit_elif_chain _ _ hsingle, docC]
        exact clamp_enter ih (Nat.le_trans hD (Nat.le_max_left ..))
    | .loop k body els, h => by
        simp [wfC] at h
        obtain ⟨⟨⟨hk, hne⟩, hbody⟩, hels⟩ := h
        have hD := le_docB 1 (d+1) body hne
        have ih := clamp_max (py_docB (d+1) body hbody) (py_docB (d+1) els hels)
        cases k with
        | forL | whileL => simpa [toPy] using clamp_enter ih (Nat.le_trans hD (Nat.le_max_left ..))
        | _ => simp [loopOk] at hk
    | .wth a body, h => by
        simp [wfC] at h
        have hD := le_docB 1 (d+1) body h.1
        have ih := py_docB (d+1) body h.2
        cases a with
        | _ => simpa [toPy] using clamp_enter ih hD
    | .clos _, h => by simp [wfC] at h
    | .tryc body hs els fin, h => by
        simp [wfC] at h
        obtain ⟨⟨⟨⟨⟨hne, hbody⟩, hhs⟩, hels⟩, hfin⟩, _⟩ := h
        have hD := le_docB 1 (d+1) body hne
        have ih := clamp_max (py_docB (d+1) body hbody) (clamp_max (py_docA (d+1) hs hhs)
          (clamp_max (py_docB (d+1) els hels) (py_docB (d+1) fin hfin)))
        simpa [toPy] using clamp_enter ih (Nat.le_trans hD (Nat.le_max_left ..))
    | .mtch cases dflt, h => by
        simp [wfC] at h
        obtain ⟨⟨hne, hcases⟩, hdflt⟩ := h
        have hD := le_docA 1 (d+1) cases hne hcases
        have ih := clamp_max (py_docA (d+1) cases hcases) (py_docB (d+1) dflt hdflt)
        simpa [toPy] using clamp_enter ih (Nat.le_trans hD (Nat.le_max_left ..))
  theorem py_docB (d : Nat) : (b : Body) → wfB .py b = true →
      max d (pyVisitL pyCs d (toPyB b)) = max d (docB 1 d b)
    | .nil, _ => by simp [toPyB]
    | .cons c r, h => by
        simp [wfB] at h
        have hc : max d (pyVisit pyCs d false (toPy c)) = max d (docC 1 d c) := by
          rw [py_docC d c h.1, Nat.max_eq_right (le_docC ..)]
        rw [toPyB, pyVisitL, docB]
        exact clamp_max hc (py_docB d r h.2)
  theorem py_docA (d : Nat) : (a : Arms) → wfA .py a = true →
      max d (pyArms pyCs d a) = max d (docA 1 d a)
    | .nil, _ => by simp [pyArms]
    | .cons b r, h => by
        simp [wfA] at h
        rw [pyArms, docA]
        exact clamp_max (py_docB d b h.1.2) (py_docA d r h.2)
end

end py

theorem py_C (d : Nat) : (c : Ctl) → wfC .py c = true →
    max d (pyVisit pyCs d false (toPy c)) + 1 = docC 1 (d+1) c
  | c, h => by rw [py_docC d c h, doc_shift_C]
theorem py_B (d : Nat) : (b : Body) → wfB .py b = true →
    max d (pyVisitL pyCs d (toPyB b)) + 1 = max (d+1) (docB 1 (d+1) b)
  | b, h => by rw [py_docB d b h, shift_B]
theorem py_A (d : Nat) : (a : Arms) → wfA .py a = true →
    max d (pyArms pyCs d a) + 1 = max (d+1) (docA 1 (d+1) a)
  | a, h => by rw [py_docA d a h, shift_A]


/-! ## Function-level statements of the property -/

/-- C01 (TypeScript/JavaScript): reported depth = documented depth, for every skeleton. -/
theorem ts_depth_eq_doc (b : Body) (h : wfB .ts b = true) : tsFnDepth incTs b = docFn b := by
  rw [tsFnDepth, tsDepth, tsVisitL_braces, ts_B 1 b h, docFn]

/-- C01 (Rust): reported depth = documented depth, for every skeleton. -/
theorem rs_depth_eq_doc (b : Body) (h : wfB .rs b = true) : rsFnDepth incRs b = docFn b := by
  rw [rsFnDepth, tsDepth, tsVisitL_braces, rs_B 1 b h, docFn]

/-- C01 (Python), exact characterisation: the analyzer reports the documented depth minus one
    (finding F01a), for every skeleton — `match` included since the repair of F01b. -/
theorem py_depth_characterised (b : Body) (h : wfB .py b = true) :
    pyFnDepth pyCs b + 1 = max 1 (docB 1 1 b) := by
  have := py_B 0 b h
  rwa [Nat.zero_max] at this

mutual
  theorem noMatch_C (m d : Nat) : (c : Ctl) → noMatchC c = true → docC m d c = docC 1 d c
    | .stmt, _ => by rw [docC, docC]
    | .ifc a b c, h => by
        simp [noMatchC] at h
        rw [docC, docC, noMatch_B m (d+1) a h.1.1, noMatch_A m (d+1) b h.1.2, noMatch_B m (d+1) c h.2]
    | .loop _ a b, h => by
        simp [noMatchC] at h
        rw [docC, docC, noMatch_B m (d+1) a h.1, noMatch_B m (d+1) b h.2]
    | .wth _ a, h => by
        simp [noMatchC] at h
        rw [docC, docC, noMatch_B m (d+1) a h]
    | .tryc a b c e, h => by
        simp [noMatchC] at h
        rw [docC, docC, noMatch_B m (d+1) a h.1.1.1, noMatch_A m (d+1) b h.1.1.2, noMatch_B m (d+1) c h.1.2,
          noMatch_B m (d+1) e h.2]
    | .mtch _ _, h => by simp [noMatchC] at h
    | .clos a, h => by
        simp [noMatchC] at h
        rw [docC, docC, noMatch_B m (d+1) a h]
  theorem noMatch_B (m d : Nat) : (b : Body) → noMatchB b = true → docB m d b = docB 1 d b
    | .nil, _ => by rw [docB, docB]
    | .cons c r, h => by
        simp [noMatchB] at h
        rw [docB, docB, noMatch_C m d c h.1, noMatch_B m d r h.2]
  theorem noMatch_A (m d : Nat) : (a : Arms) → noMatchA a = true → docA m d a = docA 1 d a
    | .nil, _ => by rw [docA, docA]
    | .cons b r, h => by
        simp [noMatchA] at h
        rw [docA, docA, noMatch_B m d b h.1, noMatch_A m d r h.2]
end

/-- C01 (Python) under finding F01a: Python reports documented depth − 1 for *every* function, `match`
    statements included (so the Python verdict flips one limit value earlier than TS/Rust). -/
theorem py_depth_is_doc_minus_one (b : Body) (h : wfB .py b = true) :
    pyFnDepth pyCs b + 1 = docFn b := by
  rw [py_depth_characterised b h, docFn]

/-- The verdict is a threshold on the depth: reported ⇔ depth > limit … -/
theorem verdict_threshold (limit depth : Nat) : reported limit depth = true ↔ depth > limit := by
  simp [reported]

/-- … so it flips at exactly one value of the limit: reported for every `limit < depth`,
    not reported for every `limit ≥ depth`. -/
theorem unique_flip (depth : Nat) :
    (∀ l, l < depth → reported l depth = true) ∧ (∀ l, depth ≤ l → reported l depth = false) := by
  constructor
  · intro l hl
    exact (verdict_threshold l depth).2 hl
  · intro l hl
    rw [← Bool.not_eq_true, verdict_threshold]
    exact Nat.not_lt.2 hl

/-- TS/Rust verdict = specification verdict, for every skeleton and every limit. -/
theorem ts_verdict (limit : Nat) (b : Body) (h : wfB .ts b = true) :
    reported limit (tsFnDepth incTs b) = specReported limit b := by
  rw [Bool.eq_iff_iff, verdict_threshold, ts_depth_eq_doc b h, specReported, decide_eq_true_iff]
theorem rs_verdict (limit : Nat) (b : Body) (h : wfB .rs b = true) :
    reported limit (rsFnDepth incRs b) = specReported limit b := by
  rw [Bool.eq_iff_iff, verdict_threshold, rs_depth_eq_doc b h, specReported, decide_eq_true_iff]
/-- Python verdict (finding F01a): what the specification demands for `limit + 1`. -/
theorem py_verdict_shifted (limit : Nat) (b : Body) (h : wfB .py b = true) :
    reported limit (pyFnDepth pyCs b) = specReported (limit + 1) b := by
  rw [Bool.eq_iff_iff, verdict_threshold, specReported, decide_eq_true_iff, ← py_depth_is_doc_minus_one b h]
  exact Nat.add_lt_add_iff_right.symm

/-- Same skeleton, same depth in TypeScript and Rust (both equal the documented depth). -/
theorem cross_language_ts_rs (b : Body) (h1 : wfB .ts b = true) (h2 : wfB .rs b = true) :
    tsFnDepth incTs b = rsFnDepth incRs b := by
  rw [ts_depth_eq_doc b h1, rs_depth_eq_doc b h2]

/-! ### Wrapping raises the depth by exactly one -/

def Arms.allNil : Arms → Bool
  | .nil => true
  | .cons b r => b.isNil && r.allNil

/-! For a body and for a list of arms the shift by one level holds as it stands only if they are not empty. -/

theorem doc_shift_B (m d : Nat) : (b : Body) → docB m (d+1) b = if b.isNil then 0 else docB m d b + 1
  | .nil => rfl
  | .cons c r => by
      rw [docB, doc_shift_C, ← shift_B m d r]
      rfl

theorem doc_shift_A (m d : Nat) : (a : Arms) → docA m (d+1) a = if a.allNil then 0 else docA m d a + 1
  | .nil => rfl
  | .cons .nil r => by
      rw [docA, docA, docB, docB, Nat.zero_max, Nat.zero_max]
      exact doc_shift_A m d r
  | .cons (.cons c b) r => by
      have hb : docB m (d+1) (.cons c b) = docB m d (.cons c b) + 1 := doc_shift_B m d (.cons c b)
      rw [docA, hb, ← shift_A m d r]
      rfl

/-- **Wrapping the deepest statement in one more control structure raises the depth by exactly
    one**: a statement (or construct) `c` sitting at depth `d`, wrapped as the only statement of a
    loop / with / closure / else-less if, reaches exactly one level deeper, whatever `c` is. -/
theorem wrap_succ (d : Nat) (c : Ctl) (k : LoopK) (a : Bool) :
    docC 1 d (.loop k (.cons c .nil) .nil) = docC 1 d c + 1 ∧
    docC 1 d (.wth a (.cons c .nil)) = docC 1 d c + 1 ∧
    docC 1 d (.clos (.cons c .nil)) = docC 1 d c + 1 ∧
    docC 1 d (.ifc (.cons c .nil) .nil .nil) = docC 1 d c + 1 ∧
    docC 1 d (.mtch (.cons (.cons c .nil) .nil) .nil) = docC 1 d c + 1 ∧
    docC 1 d (.tryc (.cons c .nil) .nil .nil (.cons .stmt .nil)) = docC 1 d c + 1 := by
  have h := le_docC 1 d c
  simp [doc_shift_C, h, Nat.le_succ_of_le h]

/-- … and the enclosing function's depth follows the deepest statement: replacing a statement of a
    body by one that is `k` deeper, when it was (one of) the deepest, raises the body's depth by `k`
    (`docB` of a body is the maximum over its statements — stated for an arbitrary position). -/
theorem body_depth_is_max (m d : Nat) (c : Ctl) (r : Body) :
    docB m d (.cons c r) = max (docC m d c) (docB m d r) := rfl


/-! ## Non-vacuity and deviation witnesses (concrete skeletons, decided by the kernel) -/

/-- the documentation's own example: `if` → `for` → `while` → statement -/
def exDoc : Body :=
  .cons .stmt (.cons (.ifc (.cons (.loop .forL (.cons (.loop .whileL (.cons .stmt .nil) .nil) .nil) .nil) .nil) .nil .nil) .nil)
/-- a `match` with one statement per case -/
def exMatch : Body := .cons (.mtch (.cons (.cons .stmt .nil) (.cons (.cons .stmt .nil) .nil)) (.cons .stmt .nil)) .nil

/-- the hypotheses of the theorems are satisfiable, and the example has documented depth 4 -/
example : wfB .ts exDoc = true ∧ wfB .rs exDoc = true ∧ wfB .py exDoc = true ∧ noMatchB exDoc = true ∧
    docFn exDoc = 4 := by decide
/-- TS and Rust report 4 (flagged for limit 3, not for limit 4) -/
example : tsFnDepth incTs exDoc = 4 ∧ rsFnDepth incRs exDoc = 4 ∧
    reported 3 (tsFnDepth incTs exDoc) = true ∧ reported 4 (tsFnDepth incTs exDoc) = false := by
  rw [ts_depth_eq_doc exDoc (by decide), rs_depth_eq_doc exDoc (by decide)]
  decide
/-- finding F01a: Python reports 3 for the same skeleton, so `--max-depth 3` does not flag it -/
theorem F01a_witness : pyFnDepth pyCs exDoc = 3 ∧ reported 3 (pyFnDepth pyCs exDoc) = false ∧
    specReported 3 exDoc = true := by decide
/-- the table of control structures as it was before the repair of finding F01b: `match_case` listed next to `Match` -/
def pyCsOld (ty : String) : Bool := ["For", "While", "With", "AsyncWith", "Try", "Match", "match_case"].contains ty
/-- finding F01b (repaired): with the old table a Python `match` counted two levels (reported 2 = documented 2,
    i.e. one more than the F01a offset alone gives); now it counts one, as a TS `switch` / Rust `match` does -/
theorem F01b_witness : wfB .py exMatch = true ∧ docFn exMatch = 2 ∧ pyFnDepth pyCsOld exMatch = 2 ∧ pyFnDepth pyCs exMatch = 1 ∧
    tsFnDepth incTs exMatch = 2 ∧ rsFnDepth incRs exMatch = 2 := by
  rw [ts_depth_eq_doc exMatch (by decide), rs_depth_eq_doc exMatch (by decide)]
  decide

end ThaiLintModel.C01
