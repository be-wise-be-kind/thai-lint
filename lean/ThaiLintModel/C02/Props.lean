import ThaiLintModel.C02.Model
namespace ThaiLintModel.C02

/-! ## Flagged ⇔ value not allowed ∧ position not exempt -/

/-- positions that occur in each language's programs -/
def pyPos : Pos → Bool
  | .enumMember => false
  | _ => true
def tsPos : Pos → Bool
  | .rangeArg | .enumerateArg | .strRepeat => false
  | _ => true
def rsPos : Pos → Bool
  | .rangeArg | .enumerateArg | .strRepeat | .enumMember => false
  | _ => true

/-- on the positions of each language the analyzer's exemptions are the documented ones (a table over the
    positions: everything else occurs on both sides alike) -/
theorem pyExempt_eq_spec (c : Cfg) (s : Site) (hp : pyPos s.pos = true) (ht : s.inTest = false) :
    pyExempt c s = specExempt "python" c s := by
  obtain ⟨pos, value, isFloat, testFile, inTest⟩ := s
  subst ht
  cases pos <;> simp [pyExempt, specExempt, pyPos, Bool.beq_eq_decide_eq] at hp ⊢

theorem tsExempt_eq_spec (c : Cfg) (s : Site) (hp : tsPos s.pos = true) (ht : s.inTest = false) :
    tsExempt s = specExempt "typescript" c s := by
  obtain ⟨pos, value, isFloat, testFile, inTest⟩ := s
  subst ht
  cases pos <;> simp [tsExempt, specExempt, tsPos, Bool.beq_eq_decide_eq] at hp ⊢

theorem rsExempt_eq_spec (c : Cfg) (s : Site) (hp : rsPos s.pos = true) : rsExempt s = specExempt "rust" c s := by
  obtain ⟨pos, value, isFloat, testFile, inTest⟩ := s
  cases pos <;> simp [rsExempt, specExempt, rsPos, Bool.beq_eq_decide_eq] at hp ⊢

/-- **Python**: a literal is reported iff its value is not allowed and it is not in a documented
    exempt position (CPython's `ast` hands the analyzer the exact value, so no parsing is involved). -/
theorem py_flag_eq_spec (c : Cfg) (s : Site) (hp : pyPos s.pos = true) (ht : s.inTest = false) :
    pyFlag c s = specFlag "python" c s := by
  rw [pyFlag, specFlag, pyExempt_eq_spec c s hp ht]

/-- the thresholds regenerated from `definition_detector.py` are the documented ones -/
theorem isDefinitionFile_eq (f : FileFacts) :
    isDefinitionFile f =
      (matchesDefinitionName f.name || decide (10 ≤ f.upperConsts) || f.dictIntKeys.any (fun k => decide (5 ≤ k))) :=
  rfl

/-- … and so are the name patterns -/
theorem matchesDefinitionName_eq (name : List Char) :
    matchesDefinitionName name =
      (name.map lowerAscii == "constants.py".toList || "_constants.py".toList.isSuffixOf (name.map lowerAscii) ||
        "_codes.py".toList.isSuffixOf (name.map lowerAscii)) := by
  simp only [matchesDefinitionName, Gen.Magic.definitionNameSuffixes, Gen.Magic.definitionNameExact, List.any_cons, List.any_nil,
    Bool.or_false]
  -- the same three tests in the tables' order, the comparison written the other way round
  rw [BEq.comm, Bool.or_comm (_ || _), Bool.or_comm (List.isSuffixOf _ _), Bool.or_assoc]

/-- the definition-file test of the code is the documented one (the thresholds and name patterns are
    regenerated from `definition_detector.py`; a change there breaks this proof) -/
theorem definition_file_eq_spec (f : FileFacts) : isDefinitionFile f = specDefinitionFile f := by
  rw [isDefinitionFile_eq, matchesDefinitionName_eq]
  rfl

/-- **Python, whole file**: a literal is reported iff the file is not a constants-definition module, its
    value is not allowed and its position is not exempt -/
theorem py_file_flag_eq_spec (c : Cfg) (f : FileFacts) (s : Site) (hp : pyPos s.pos = true) (ht : s.inTest = false) :
    pyFlagIn c f s = specFlagIn "python" c f s := by
  simp [pyFlagIn, specFlagIn, definition_file_eq_spec, py_flag_eq_spec c s hp ht]

/-- a definition file reports nothing, whatever it contains -/
theorem definition_file_silent (c : Cfg) (f : FileFacts) (sites : List Site) (h : isDefinitionFile f = true) :
    sites.filter (pyFlagIn c f) = [] := by
  simp [pyFlagIn, h]

/-- integer keys are counted **per dict**: a file whose every dict has fewer than five integer keys, with
    fewer than ten constants and an ordinary name, is not a definition file however many dicts it has -/
theorem small_dicts_never_exempt (f : FileFacts) (hn : matchesDefinitionName f.name = false) (hu : f.upperConsts < 10)
    (hd : ∀ k ∈ f.dictIntKeys, k < 5) : isDefinitionFile f = false := by
  rw [isDefinitionFile_eq, hn, Bool.false_or, Bool.or_eq_false_iff, decide_eq_false_iff_not, List.any_eq_false]
  exact ⟨Nat.not_le.2 hu, fun k hk => by rw [decide_eq_true_eq]; exact Nat.not_le.2 (hd k hk)⟩

example : isDefinitionFile ⟨"mod.py".toList, 3, [3, 3, 4]⟩ = false ∧ isDefinitionFile ⟨"mod.py".toList, 3, [3, 5]⟩ = true ∧
    isDefinitionFile ⟨"Status_CODES.py".toList, 0, []⟩ = true ∧ isDefinitionFile ⟨"codes.py".toList, 9, [4]⟩ = false ∧
    isDefinitionFile ⟨"constants.py".toList, 0, []⟩ = true ∧ isDefinitionFile ⟨"mod.py".toList, 10, []⟩ = true := by decide +kernel

/-- **TypeScript/JavaScript**, for literals whose text is read as their true value -/
theorem ts_flag_eq_spec (c : Cfg) (s : Site) (hp : tsPos s.pos = true) (ht : s.inTest = false) :
    tsFlag c (some s.value) s = specFlag "typescript" c s := by
  rw [tsFlag, specFlag, tsExempt_eq_spec c s hp ht]

/-- **Rust**, for literals whose text is read as their true value -/
theorem rs_flag_eq_spec (c : Cfg) (s : Site) (hp : rsPos s.pos = true) :
    rsFlag c (some s.value) s = specFlag "rust" c s := by
  rw [rsFlag, specFlag, rsExempt_eq_spec c s hp]

/-- a literal whose text cannot be read is silently skipped (this is how findings F02a/F02b arise) -/
theorem unparsed_never_flagged (c : Cfg) (s : Site) : tsFlag c none s = false ∧ rsFlag c none s = false := by
  simp [tsFlag, rsFlag]

/-! ## Adding / removing an allowed value changes exactly the literals of that value -/

def Cfg.allow (c : Cfg) (v : Val) : Cfg := { c with allowed := v :: c.allowed }

theorem allows_allow (c : Cfg) (v x : Val) : (c.allow v).allows x = (v.eq x || c.allows x) :=
  List.any_cons

/-- per literal: after allowing `v` a literal is reported iff it was reported before and its value is not `v` -/
theorem pyFlag_allow (c : Cfg) (v : Val) (s : Site) : pyFlag (c.allow v) s = (!v.eq s.value && pyFlag c s) := by
  rw [pyFlag, allows_allow, Bool.not_or, Bool.and_assoc]
  rfl

/-- per file: **adding a value to allowed_numbers removes exactly the violations for literals of
    that value** (and removing it adds exactly those back) — for every program, as a list law -/
theorem allowed_delta (c : Cfg) (v : Val) (sites : List Site) :
    sites.filter (pyFlag (c.allow v)) = (sites.filter (pyFlag c)).filter (fun s => !v.eq s.value) := by
  rw [List.filter_filter]
  exact List.filter_congr fun s _ => pyFlag_allow c v s

theorem isIntLe_mono (v : Val) {j k : Nat} (hjk : j ≤ k) : v.isIntLe j = true → v.isIntLe k = true := by
  simp only [Val.isIntLe, Bool.and_eq_true, decide_eq_true_eq]
  exact And.imp_right fun h => Nat.le_trans h hjk

/-- only the two small-integer exemptions depend on `max_small_integer`, and they grow with it -/
theorem pyExempt_mono (c : Cfg) {k : Nat} (hk : c.maxSmall ≤ k) (s : Site) :
    pyExempt c s = true → pyExempt { c with maxSmall := k } s = true := by
  simp only [pyExempt, Bool.or_eq_true, Bool.and_eq_true]
  exact Or.imp_left (Or.imp (Or.imp_right (And.imp_right (isIntLe_mono _ hk))) (And.imp_right (isIntLe_mono _ hk)))

/-- raising `max_small_integer` never adds a violation -/
theorem max_small_monotone (c : Cfg) (k : Nat) (hk : c.maxSmall ≤ k) (s : Site) :
    pyFlag { c with maxSmall := k } s = true → pyFlag c s = true := by
  simp only [pyFlag, Bool.and_eq_true, Bool.not_eq_true']
  exact And.imp_right fun h => Bool.eq_false_iff.2 (mt (pyExempt_mono c hk s) (Bool.eq_false_iff.1 h))

/-! ## Reading literal text (`_extract_numeric_value`) -/

theorem stripUnderscores_noop (cs : List Char) (h : '_' ∉ cs) : stripUnderscores cs = cs :=
  List.filter_eq_self.2 fun _ ha => bne_iff_ne.2 fun e => h (e ▸ ha)

theorem underscoresOk_cons_of_ne {c : Char} (hc : c ≠ '_') (r : List Char) : underscoresOk (c :: r) = underscoresOk r := by
  rw [underscoresOk]
  · exact fun h _ => hc h
  · exact fun _ h _ => hc h

theorem underscoresOk_noop (cs : List Char) (h : '_' ∉ cs) : underscoresOk cs = true := by
  induction cs with
  | nil => rfl
  | cons c r ih =>
    rw [List.mem_cons, not_or] at h
    rw [underscoresOk_cons_of_ne (Ne.symm h.1), ih h.2]

/-- hexadecimal text is read as the base-16 value of its digits … -/
theorem pyInt0_hex (ds : List Char) (h : '_' ∉ ds) : pyInt0 ('0' :: 'x' :: ds) = digitsVal 16 ds := by
  have h' : '_' ∉ ('0' :: 'x' :: ds) := by simp [h]
  simp [pyInt0, underscoresOk_noop _ h', stripUnderscores_noop _ h]

/-- … by the TypeScript analyzer too, whatever its digits are (`e` included — fix 570cd14) -/
theorem ts_hex_sound (ds : List Char) (h : '_' ∉ ds) (hn : ('0' :: 'x' :: ds).getLast? ≠ some 'n') :
    tsParse ('0' :: 'x' :: ds) = (digitsVal 16 ds).map Val.ofNat := by
  have h0 : (('0' :: 'x' :: ds).getLast? == some 'n') = false := by simpa using hn
  have hp : hasBasePrefix (('0' :: 'x' :: ds).map lowerAscii) = true := by
    simp only [List.map_cons, hasBasePrefix, List.take]
    decide
  simp only [tsParse, h0, Bool.false_eq_true, if_false, hp, if_true, pyInt0_hex ds h]

/-- regression witnesses for the repaired findings F02a (hex with e), F02b (BigInt), F02d (Rust hex …f32) -/
example : tsParse "0xFE".toList = some ⟨254, 0⟩ ∧ tsParse "0x1e".toList = some ⟨30, 0⟩ ∧ tsParse "10n".toList = some ⟨10, 0⟩ ∧
    rsParse false "0xaf32".toList = some ⟨44850, 0⟩ ∧ rsParse true "2.5f32".toList = some ⟨25, 1⟩ := by decide +kernel
/-- finding F02e (repaired): a legacy octal literal (`017`, sloppy-mode JavaScript) used to be skipped, because `int(text, 0)`
    rejects it (`pyInt0`); it is read as octal now, and `089`, which JavaScript reads as decimal, as 89 -/
theorem F02e_witness : pyInt0 "017".toList = none ∧ tsParse "017".toList = some ⟨15, 0⟩ ∧ tsParse "089".toList = some ⟨89, 0⟩ ∧
    tsParse "0".toList = some ⟨0, 0⟩ ∧ tsParse "00".toList = some ⟨0, 0⟩ := by decide +kernel

/-- tests (not the unbounded claim): each documented literal form is read as its value -/
example : tsParse "255".toList = some ⟨255, 0⟩ ∧ tsParse "1_000".toList = some ⟨1000, 0⟩ ∧ tsParse "0o17".toList = some ⟨15, 0⟩ ∧
    tsParse "0b101".toList = some ⟨5, 0⟩ ∧ tsParse "3.75".toList = some ⟨375, 2⟩ ∧ tsParse "2e3".toList = some ⟨2000, 0⟩ ∧
    tsParse "6e-2".toList = some ⟨6, 2⟩ ∧ tsParse "1.5e1".toList = some ⟨15, 0⟩ := by decide +kernel
example : rsParse false "42u8".toList = some ⟨42, 0⟩ ∧ rsParse false "1_000_000usize".toList = some ⟨1000000, 0⟩ ∧
    rsParse false "0xffi64".toList = some ⟨255, 0⟩ ∧ rsParse true "2.5f32".toList = some ⟨25, 1⟩ ∧
    rsParse true "2e4".toList = some ⟨20000, 0⟩ ∧ rsParse false "7i128".toList = some ⟨7, 0⟩ := by decide +kernel
example : (Val.mk 10 1).eq (Val.ofNat 1) = true ∧ (Val.mk 375 2).eq ⟨3750, 3⟩ = true ∧ (Val.mk 375 2).eq ⟨376, 2⟩ = false := by decide

end ThaiLintModel.C02
