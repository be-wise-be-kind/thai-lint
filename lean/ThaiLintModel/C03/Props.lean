import ThaiLintModel.C03.Model
namespace ThaiLintModel.C03

/-! ## The sort -/

theorem insertBy_perm {α} (le : α → α → Bool) (x : α) (l : List α) : (insertBy le x l).Perm (x :: l) := by
  induction l with
  | nil => simp [insertBy]
  | cons y r ih =>
    simp only [insertBy]
    split
    · exact List.Perm.refl _
    · exact (List.Perm.cons y ih).trans (List.Perm.swap x y r)

theorem sortBy_perm {α} (le : α → α → Bool) (l : List α) : (sortBy le l).Perm l := by
  induction l with
  | nil => simp [sortBy]
  | cons x r ih => exact (insertBy_perm le x _).trans (List.Perm.cons x ih)

theorem mem_sortBy {α} (le : α → α → Bool) (l : List α) (x : α) : x ∈ sortBy le l ↔ x ∈ l :=
  (sortBy_perm le l).mem_iff

/-! ## The de-duplication pass: blocks (`greedy`, `dedupBlocks`) and violations (`filterOverlapping`,
    `dedupViolations`) go through the same one, with another notion of conflict -/

/-- keep a candidate unless it conflicts with one kept already -/
def keepUnless {α} (conflict : α → α → Bool) (kept : List α) : List α → List α
  | [] => kept.reverse
  | x :: rest => if kept.any (conflict x) then keepUnless conflict kept rest else keepUnless conflict (x :: kept) rest

theorem greedy_eq_keepUnless (kept input : List Block) : greedy kept input = keepUnless overlap kept input := by
  induction input generalizing kept with
  | nil => rfl
  | cons b rest ih => simp only [greedy, keepUnless, ih]

theorem filterOverlapping_eq_keepUnless (keptSpan : Bool) (kept input : List Viol) :
    filterOverlapping keptSpan kept input = keepUnless (vOverlaps keptSpan) kept input := by
  induction input generalizing kept with
  | nil => rfl
  | cons v rest ih => simp only [filterOverlapping, keepUnless, ih]

section
variable {α : Type} (conflict : α → α → Bool)

theorem keepUnless_subset (kept input : List α) : keepUnless conflict kept input ⊆ kept ++ input := by
  induction input generalizing kept with
  | nil => simp [keepUnless]
  | cons y rest ih =>
    simp only [keepUnless]
    split
    · exact (ih kept).trans ((List.sublist_cons_self y rest).append_left kept).subset
    · exact (ih (y :: kept)).trans List.perm_middle.symm.subset

/-- the pass is maximal: every candidate is kept or conflicts with one that is -/
theorem keepUnless_maximal (kept input : List α) :
    (∀ k ∈ kept, k ∈ keepUnless conflict kept input) ∧
    (∀ x ∈ input, x ∈ keepUnless conflict kept input ∨ ∃ k ∈ keepUnless conflict kept input, conflict x k = true) := by
  induction input generalizing kept with
  | nil => simp [keepUnless]
  | cons y rest ih =>
    simp only [keepUnless]
    split
    · rename_i hconflict
      obtain ⟨hkept, hrest⟩ := ih kept
      obtain ⟨k, hk, hyk⟩ := List.any_eq_true.1 hconflict
      exact ⟨hkept, List.forall_mem_cons.2 ⟨Or.inr ⟨k, hkept k hk, hyk⟩, hrest⟩⟩
    · obtain ⟨hkept, hrest⟩ := ih (y :: kept)
      exact ⟨fun k hk => hkept k (List.mem_cons_of_mem y hk),
        List.forall_mem_cons.2 ⟨Or.inl (hkept y List.mem_cons_self), hrest⟩⟩

variable {conflict} {file : α → Nat} {le : α → α → Bool} {l : List α} {x : α}

theorem mem_of_kept_in_file {fi : Nat} (h : x ∈ keepUnless conflict [] (sortBy le (l.filter (file · == fi)))) :
    x ∈ l ∧ file x = fi := by
  have h := keepUnless_subset conflict [] _ h
  rw [List.nil_append, mem_sortBy, List.mem_filter, beq_iff_eq] at h
  exact h

theorem kept_in_file_maximal (hx : x ∈ l) :
    x ∈ keepUnless conflict [] (sortBy le (l.filter (file · == file x))) ∨
    ∃ k ∈ keepUnless conflict [] (sortBy le (l.filter (file · == file x))), conflict x k = true :=
  (keepUnless_maximal conflict [] _).2 x ((mem_sortBy le _ x).2 (List.mem_filter.2 ⟨hx, beq_self_eq_true _⟩))

end

/-- the block pass is maximal: every input block is kept or overlaps a kept one -/
theorem greedy_maximal (kept input : List Block) :
    (∀ k ∈ kept, k ∈ greedy kept input) ∧
    (∀ b ∈ input, b ∈ greedy kept input ∨ ∃ k ∈ greedy kept input, overlap b k = true) := by
  rw [greedy_eq_keepUnless]
  exact keepUnless_maximal overlap kept input

theorem dedupBlocks_subset (nFiles : Nat) (blocks : List Block) : ∀ b ∈ dedupBlocks nFiles blocks, b ∈ blocks := by
  intro b hb
  obtain ⟨fi, _, h⟩ := List.mem_flatMap.1 hb
  rw [greedy_eq_keepUnless] at h
  exact (mem_of_kept_in_file h).1

/-! ## Soundness -/

/-- a raw violation is built from a block `b` of the de-duplicated occurrences `d` of one snippet `s` -/
theorem mem_rawViolations {nFiles minOcc : Nat} {store : List Block} {v : Viol}
    (hv : v ∈ rawViolations nFiles minOcc store) :
    ∃ s d b, (∀ x ∈ d, x ∈ store ∧ x.snippet = s) ∧ minOcc ≤ d.length ∧ b ∈ d ∧ v = buildViolation b d := by
  simp only [rawViolations, List.mem_flatMap, List.mem_ite_nil_right, List.mem_map, Bool.and_eq_true,
    decide_eq_true_eq] at hv
  obtain ⟨s, _, ⟨hlen, _⟩, b, hb, rfl⟩ := hv
  refine ⟨s, _, b, ?_, hlen, hb, rfl⟩
  intro x hx
  have := dedupBlocks_subset _ _ x hx
  rw [List.mem_filter, beq_iff_eq] at this
  exact this

/-- **Every named location carries the same normalised text as the reported block**, and is a real
    window of the project: the references of a violation are blocks of the store with that snippet. -/
theorem refs_same_snippet (nFiles minOcc : Nat) (store : List Block) :
    ∀ v ∈ rawViolations nFiles minOcc store, ∀ r ∈ v.refs,
      ∃ b ∈ store, b.snippet = v.snippet ∧ (b.file, b.start, b.stop) = r := by
  intro v hv r hr
  obtain ⟨s, d, b, hd, _, hb, rfl⟩ := mem_rawViolations hv
  simp only [buildViolation, List.mem_map, List.mem_filter] at hr
  obtain ⟨x, ⟨hx, _⟩, rfl⟩ := hr
  exact ⟨x, (hd x hx).1, (hd x hx).2.trans (hd b hb).2.symm, rfl⟩

/-- the reported block itself is a window of the project with the reported text -/
theorem violation_is_window (nFiles minOcc : Nat) (store : List Block) :
    ∀ v ∈ rawViolations nFiles minOcc store, ∃ b ∈ store, b.snippet = v.snippet ∧ b.file = v.file ∧ b.start = v.line ∧
      v.count ≥ minOcc := by
  intro v hv
  obtain ⟨s, d, b, hd, hlen, hb, rfl⟩ := mem_rawViolations hv
  exact ⟨b, (hd b hb).1, rfl, rfl, rfl, hlen⟩

/-- the report only ever removes raw violations (every filter is a removal) -/
theorem report_subset_raw (ks : Bool) (k minOcc : Nat) (files : List File) :
    ∀ v ∈ report ks k minOcc files, v ∈ rawViolations files.length minOcc (allWindows k files) := by
  intro v hv
  obtain ⟨fi, _, h⟩ := List.mem_flatMap.1 hv
  rw [filterOverlapping_eq_keepUnless] at h
  exact (mem_of_kept_in_file h).1

/-- **Projects that share no run produce no DRY violation** -/
theorem no_dup_no_report (keptSpan : Bool) (k minOcc : Nat) (files : List File)
    (h : dupSnippets (allWindows k files) = []) : report keptSpan k minOcc files = [] := by
  have hraw : rawViolations files.length minOcc (allWindows k files) = [] := by
    simp only [rawViolations, h, List.flatMap_nil]
  apply List.eq_nil_of_subset_nil
  rw [← hraw]
  exact report_subset_raw keptSpan k minOcc files

/-! ## Completeness / mutuality: every raw violation is kept or covered by a kept one -/

/-- **Every occurrence is covered** (repaired code, `keptSpan = true`): each raw violation — one per
    non-overlapping occurrence of every duplicated window, which is also what every "Also found in"
    reference points at — is either reported itself or starts inside the lines of a reported violation
    of the same file.  No hypothesis on interleaved comments / blank lines is needed any more. -/
theorem every_occurrence_covered (k minOcc : Nat) (files : List File) :
    ∀ v ∈ rawViolations files.length minOcc (allWindows k files), v.file < files.length →
      v ∈ report true k minOcc files ∨
      ∃ w ∈ report true k minOcc files, w.file = v.file ∧ v.line < w.line + w.span := by
  intro v hv hfile
  have hrange := List.mem_range.2 hfile
  simp only [report, dedupViolations, filterOverlapping_eq_keepUnless]
  rcases kept_in_file_maximal (le := violLe) (conflict := vOverlaps true) hv with h | ⟨w, hw, hvw⟩
  · exact Or.inl (List.mem_flatMap_of_mem hrange h)
  · refine Or.inr ⟨w, List.mem_flatMap_of_mem hrange hw, (mem_of_kept_in_file hw).2, ?_⟩
    simpa [vOverlaps] using hvw

/-! ## Witnesses -/

/-- a.py: block X on lines 2-4 (shared with b.py) and block Y on lines 5, 14, 15 (comment lines in
    between; shared with c.py) -/
def exFiles : List File :=
  [ [(1, 9), (2, 1), (3, 2), (4, 3), (5, 4), (14, 5), (15, 6), (16, 8)],
    [(1, 7), (2, 1), (3, 2), (4, 3)],
    [(1, 6), (2, 4), (3, 5), (4, 6)] ]

/-- finding F03a (the code before the repair, `keptSpan = false`): Y's occurrence in file 0 is
    neither reported nor covered although file 2's violation names it; with the repaired overlap
    test it is reported -/
theorem F03a_witness :
    ((report false 3 2 exFiles).filter (·.file == 0)).map (·.line) = [2] ∧
    ((report true 3 2 exFiles).filter (·.file == 0)).map (·.line) = [2, 5] ∧
    ((report false 3 2 exFiles).filter (·.file == 2)).map (·.refs) = [[(0, 5, 15)]] := by
  decide +kernel

/-- non-vacuity: a plain two-file duplicate is reported in both files, each naming the other, count 2 -/
example :
    let r := report true 3 2 [[(1, 1), (2, 2), (3, 3)], [(5, 1), (6, 2), (7, 3)]]
    r.map (·.file) = [0, 1] ∧ r.map (·.line) = [1, 5] ∧ r.map (·.count) = [2, 2] ∧ r.map (·.refs) = [[(1, 5, 7)], [(0, 1, 3)]] := by
  decide +kernel

end ThaiLintModel.C03
