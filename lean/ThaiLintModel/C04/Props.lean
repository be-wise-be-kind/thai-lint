import ThaiLintModel.C04.Model
import ThaiLintModel.Gen.Cli
namespace ThaiLintModel.C04

/-! ## Block scope: `ignore-start … ignore-end` silences exactly the lines it encloses -/

theorem lastMarker_cons (k : Kind) (rest : List Kind) :
    lastMarker (k :: rest) =
      match lastMarker rest with
      | some m => some m
      | none => match k with
        | .other => none
        | m => some m :=
  rfl

theorem lastMarker_eq_find? (l : List Kind) : lastMarker l = l.reverse.find? (fun k => !k.isOther) := by
  induction l with
  | nil => rfl
  | cons k rest ih =>
    rw [lastMarker_cons, ih, List.reverse_cons, List.find?_append]
    cases rest.reverse.find? (fun k => !k.isOther) with
    | some m => rfl
    | none => cases k <;> rfl

theorem lastMarker_append_single (pre : List Kind) (k : Kind) :
    lastMarker (pre ++ [k]) = (match k with | .other => lastMarker pre | m => some m) := by
  rw [lastMarker_eq_find?, lastMarker_eq_find?, List.reverse_append]
  cases k <;> rfl

theorem lastMarker_mem {l : List Kind} {m : Kind} (h : lastMarker l = some m) : m ∈ l := by
  rw [lastMarker_eq_find?] at h
  exact List.mem_reverse.1 (List.mem_of_find?_eq_some h)

theorem Kind.eq_other_of_isOther {k : Kind} (h : k.isOther = true) : k = .other := by
  cases k with
  | other => rfl
  | start rs => cases h
  | stop => cases h

/-- the state `scanBlock` goes on with after a line that gives no verdict -/
def nextSt (st : BlockSt) (i : Nat) : Kind → BlockSt
  | .start rs => { inBlock := true, rules := rs, startLine := i }
  | .stop => initSt
  | .other => st

/-- a line other than the violation line `L` gives no verdict (repaired code), unless it ends a block that began at or
    above `L` -/
theorem scanBlock_cons_of_no_verdict {r : Str} {L : Nat} {st : BlockSt} {i : Nat} (k : Kind) (rest : List Kind)
    (hi : i ≠ L) (hst : L < i → st.inBlock = true → L < st.startLine) :
    scanBlock true r L st i (k :: rest) = scanBlock true r L (nextSt st i k) (i + 1) rest := by
  cases k with
  | start rs => rfl
  | stop =>
    simp only [scanBlock, nextSt, initSt]
    rw [if_neg]
    simp only [Bool.and_eq_true, Bool.not_true, Bool.false_or, decide_eq_true_eq]
    intro ⟨⟨⟨hb, hgt⟩, hle⟩, _⟩
    exact Nat.not_lt.2 hle (hst hgt hb)
  | other =>
    simp only [scanBlock, nextSt]
    rw [if_neg]
    simp only [Bool.and_eq_true, beq_iff_eq]
    intro ⟨hiL, _⟩
    exact hi hiL

/-- past the violation line nothing is returned any more (repaired code) -/
theorem scan_past (r : Str) (L : Nat) (rest : List Kind) (st : BlockSt) (i : Nat) (hi : L < i)
    (hst : st.inBlock = true → L < st.startLine) : scanBlock true r L st i rest = false := by
  induction rest generalizing st i with
  | nil => rfl
  | cons k rest ih =>
    rw [scanBlock_cons_of_no_verdict k rest (Nat.ne_of_gt hi) (fun _ => hst)]
    apply ih _ _ (Nat.lt_succ_of_lt hi)
    cases k with
    | start rs => exact fun _ => hi
    | stop => exact fun h => Bool.noConfusion h
    | other => exact hst

/-- the scan up to an ordinary line `L`: the verdict is that of the last marker above `L`, or of the state the scan
    starts in when there is none -/
theorem scan_to_violation (r : Str) (L : Nat) (pre post : List Kind) (st : BlockSt) (i : Nat) (hi : i + pre.length = L) :
    scanBlock true r L st i (pre ++ .other :: post) =
      match lastMarker pre with
      | none => st.inBlock && rulesMatch st.rules r
      | some m => match m with
        | .start rs => rulesMatch rs r
        | _ => false := by
  induction pre generalizing st i with
  | nil =>
    rw [List.length_nil, Nat.add_zero] at hi
    simp only [List.nil_append, scanBlock, lastMarker, hi, beq_self_eq_true, Bool.true_and]
    cases hb : st.inBlock with
    | true => rfl
    | false => exact scan_past r L post st (L + 1) (Nat.lt_succ_self L) (by simp [hb])
  | cons k pre ih =>
    rw [List.length_cons] at hi
    have hlt : i < L := by omega
    rw [List.cons_append, scanBlock_cons_of_no_verdict k _ (Nat.ne_of_lt hlt) (fun h => absurd h (Nat.lt_asymm hlt)),
      ih _ _ (by omega), lastMarker_cons]
    cases k <;> cases lastMarker pre <;> rfl

/-- **Block directives silence exactly what they enclose** (repaired code): a violation on an ordinary
    line is suppressed by the block mechanism iff the nearest `ignore-start`/`ignore-end` marker above
    it is an `ignore-start` that names its rule — for every file and every line. -/
theorem block_scope_exact (r : Str) (L : Nat) (kinds : List Kind)
    (hL : 0 < L ∧ L ≤ kinds.length) (hother : ∀ k, kinds[L - 1]? = some k → k.isOther = true) :
    checkBlock true r L kinds = specBlock r L kinds := by
  have hlt : L - 1 < kinds.length := by omega
  have hk : kinds[L - 1] = .other := Kind.eq_other_of_isOther (hother _ (List.getElem?_eq_getElem hlt))
  have hscan := scan_to_violation r L (kinds.take (L - 1)) (kinds.drop (L - 1 + 1)) initSt 1
    (by rw [List.length_take]; omega)
  rw [← hk, ← List.drop_eq_getElem_cons hlt, List.take_append_drop] at hscan
  unfold checkBlock specBlock
  rw [if_pos (by simp [hL]), hscan]
  cases lastMarker (kinds.take (L - 1)) with
  | none => rfl
  | some m => cases m <;> rfl

/-- finding F04a (the code before the repair, `trackStart = false`): a violation *above* a block that
    names its rule is silenced by that block's `ignore-end` -/
theorem F04a_witness :
    checkBlock false "m.n".toList 2 [.other, .other, .other, .start (some ["m".toList]), .other, .stop] = true ∧
    checkBlock true "m.n".toList 2 [.other, .other, .other, .start (some ["m".toList]), .other, .stop] = false ∧
    specBlock "m.n".toList 2 [.other, .other, .other, .start (some ["m".toList]), .other, .stop] = false := by decide

/-- a directive that names another rule, or an empty list of directives, changes nothing -/
theorem other_rule_changes_nothing (r : Str) (L : Nat) (kinds : List Kind)
    (h : ∀ k ∈ kinds, match k with | .start rs => rulesMatch rs r = false | _ => True) :
    specBlock r L kinds = false := by
  unfold specBlock
  cases hm : lastMarker (kinds.take (L - 1)) with
  | none => rfl
  | some m =>
    cases m with
    | start rs => exact h _ (List.mem_of_mem_take (lastMarker_mem hm))
    | stop => rfl
    | other => rfl

/-! ## Rule-name spellings (tables regenerated from /repo) -/

def upper (s : Str) : Str := s.map Char.toUpper
def linterOf (rid : Str) : Str := rid.takeWhile (· != '.')

/-- every documented spelling of a rule's name matches that rule -/
theorem rule_matches_spellings :
    ∀ rid ∈ Gen.Cli.ruleIds,
      ruleMatches rid.toList rid.toList = true ∧
      ruleMatches rid.toList (linterOf rid.toList) = true ∧
      ruleMatches rid.toList (linterOf rid.toList ++ ".*".toList) = true ∧
      ruleMatches rid.toList (upper rid.toList) = true ∧
      ruleMatches rid.toList (upper (linterOf rid.toList)) = true := by decide +kernel

/-- deprecated aliases still match their canonical rule -/
theorem alias_spellings :
    ∀ a ∈ Gen.Ignore.ruleIdAliases,
      ruleMatches a.2.toList a.1.toList = true ∧ ruleMatches a.2.toList (linterOf a.1.toList) = true ∧
      ruleMatches a.2.toList (linterOf a.1.toList ++ ".*".toList) = true := by decide +kernel

/-- a spelling of one linter's rules never matches another linter's rule -/
theorem spellings_do_not_cross_linters :
    ∀ r1 ∈ Gen.Cli.ruleIds, ∀ r2 ∈ Gen.Cli.ruleIds, linterOf r1.toList ≠ linterOf r2.toList →
      (Gen.Ignore.ruleIdAliases.all fun a => linterOf a.1.toList != linterOf r1.toList || linterOf a.2.toList == linterOf r1.toList) = true →
      ruleMatches r2.toList (linterOf r1.toList) = false ∧ ruleMatches r2.toList (linterOf r1.toList ++ ".*".toList) = false ∧
      ruleMatches r2.toList r1.toList = false := by decide +kernel


/-- **Comment styles, prefixes, letter case and the bare form are interchangeable**: every one of the
    64 cells (form x `#`/`//` x thailint/design-lint x keyword case x bare/named) silences a violation
    placed in its scope (repaired recognisers; before the repair 32 cells were dead). -/
theorem recognised_cells :
    ∀ c ∈ allCells, c.honoured "magic-numbers.numeric-literal".toList = true ∧ c.honoured "file-placement".toList = true := by
  decide +kernel

/-- … and none of them silences a violation outside its scope or of a rule it does not name -/
theorem cells_do_not_leak :
    ∀ c ∈ allCells, c.bare = false →
      shouldIgnore true ["x = 1".toList, c.text "nesting.excessive-depth".toList, "y = 2".toList, "z = compute(4242)".toList,
                         (if c.slashes then "// thailint: ignore-end".toList else "# thailint: ignore-end".toList), "w = 3".toList]
        "magic-numbers.numeric-literal".toList 4 = false := by
  decide +kernel

/-- F04r (repaired): a comment of another tool with an `ignore[...]` of its own in front of the directive (mypy's
    `# type: ignore[arg-type]`) no longer hides the directive's rule list; and such a comment alone is no directive -/
theorem F04r_witness :
    lineSameLineIgnores "    return x * 37  # type: ignore[arg-type]  # thailint: ignore[magic-numbers]".toList
        "magic-numbers.numeric-literal".toList = true ∧
    (hasLineMarker "    return x * 37  # type: ignore[arg-type]  # thailint: ignore[magic-numbers]".toList &&
      sameLineRuleMatchOld "    return x * 37  # type: ignore[arg-type]  # thailint: ignore[magic-numbers]".toList
        "magic-numbers.numeric-literal".toList) = false ∧
    lineSameLineIgnores "    return x * 37  # type: ignore[arg-type]  # thailint: ignore[nesting]".toList
        "magic-numbers.numeric-literal".toList = false ∧
    lineSameLineIgnores "    return x * 37  # type: ignore[magic-numbers]".toList "magic-numbers.numeric-literal".toList = false := by
  decide +kernel

theorem isPrefixOf_append_eq_false {k s : Str} (rest : Str) (hks : k.isPrefixOf s = false) (hsk : s.isPrefixOf k = false) :
    k.isPrefixOf (s ++ rest) = false := by
  rw [← Bool.not_eq_true, List.isPrefixOf_iff_prefix] at *
  intro h
  exact (List.prefix_or_prefix_of_prefix h (List.prefix_append s rest)).elim hks hsk

/-- no directive prefix begins at the head of `s`, whatever is appended to `s` -/
def noStartAt (s : Str) : Bool :=
  !("thailint:".toList.isPrefixOf s) && !(s.isPrefixOf "thailint:".toList) &&
  !("design-lint:".toList.isPrefixOf s) && !(s.isPrefixOf "design-lint:".toList)

def noDirectiveStart : Str → Bool
  | [] => true
  | c :: s => noStartAt (c :: s) && noDirectiveStart s

theorem afterLineDirective_none (s rest : Str) (h : noStartAt s = true) : afterLineDirective (s ++ rest) = none := by
  simp only [noStartAt, Bool.and_eq_true, Bool.not_eq_true'] at h
  obtain ⟨⟨⟨h1, h2⟩, h3⟩, h4⟩ := h
  simp only [afterLineDirective, isPrefixOf_append_eq_false rest h1 h2, isPrefixOf_append_eq_false rest h3 h4,
    Bool.false_eq_true, if_false]

/-- **Text in front of the directive that cannot begin a directive itself - code, another tool's comment with an `ignore[...]`
    of its own - does not change which rule list is read**: the search skips it, for every such text and whatever follows. -/
theorem directiveBracket_skip (line : Str) : (pre rest : Str) → noDirectiveStart pre = true →
    directiveBracket line (pre ++ rest) = directiveBracket line rest
  | [], _, _ => rfl
  | c :: p, rest, h => by
      simp only [noDirectiveStart, Bool.and_eq_true] at h
      have hnone := afterLineDirective_none (c :: p) rest h.1
      rw [List.cons_append] at hnone ⊢
      -- (`rw [directiveBracket]` would derive all equations of the function first, which is slow)
      conv => lhs; unfold directiveBracket
      rw [hnone]
      exact directiveBracket_skip line p rest h.2

example : noDirectiveStart (lower "    return x * 37  # type: ignore[arg-type]  # ".toList) = true := by decide +kernel
example : noDirectiveStart (lower "x = f(1)  # pyright: ignore[reportGeneralTypeIssues]  // ".toList) = true := by decide +kernel

theorem lower_append (a b : Str) : lower (a ++ b) = lower a ++ lower b := List.map_append

/-- … in the form `sameLineRuleMatch` uses it: the search over the whole lower-cased line finds what the search from the
    directive on finds -/
theorem text_before_directive_irrelevant (pre rest : Str) (h : noDirectiveStart (lower pre) = true) :
    directiveBracket (pre ++ rest) (lower (pre ++ rest)) = directiveBracket (pre ++ rest) (lower rest) := by
  rw [lower_append]
  exact directiveBracket_skip _ _ _ h

end ThaiLintModel.C04
