/-
The ordered dictionary of the C05 model (`lookup`, `upsert`), key normalisation, and one list fact.
-/
import ThaiLintModel.C05.Model
namespace ThaiLintModel.C05

theorem lookup_upsert {β} (d : List (Str × β)) (k q : Str) (v : β) :
    lookup (upsert d k v) q = if k == q then some v else lookup d q := by
  induction d with
  | nil => rfl
  | cons h t ih =>
    obtain ⟨k', v'⟩ := h
    by_cases hk : k' = k
    · subst hk
      by_cases hq : k' = q <;> simp [upsert, lookup, hq]
    · by_cases hq : k' = q
      · subst hq
        simp [upsert, lookup, hk, Ne.symm hk]
      · simp [upsert, lookup, hk, hq, ih]

theorem lookup_map_snd {β γ} (g : β → γ) (d : List (Str × β)) (q : Str) :
    lookup (d.map fun kv => (kv.1, g kv.2)) q = (lookup d q).map g := by
  induction d with
  | nil => rfl
  | cons h t ih =>
    simp only [List.map_cons, lookup, ih]
    split <;> rfl

theorem upsert_of_not_mem {β} (d : List (Str × β)) (k : Str) (v : β) (h : k ∉ d.map (·.1)) :
    upsert d k v = d ++ [(k, v)] := by
  induction d with
  | nil => rfl
  | cons hd t ih =>
    obtain ⟨k', v'⟩ := hd
    simp only [List.map_cons, List.mem_cons, not_or] at h
    simp only [upsert, beq_iff_eq, if_neg (Ne.symm h.1), List.cons_append]
    rw [ih h.2]

/-- entries with distinct new keys, inserted one after the other, are appended in order -/
theorem foldl_upsert_of_nodup {β} (l acc : List (Str × β)) (h : ((acc ++ l).map (·.1)).Nodup) :
    l.foldl (fun a kv => upsert a kv.1 kv.2) acc = acc ++ l := by
  induction l generalizing acc with
  | nil => simp
  | cons x xs ih =>
    have hx : x.1 ∉ acc.map (·.1) := by
      intro hmem
      rw [List.map_append, List.map_cons] at h
      exact (List.nodup_append.mp h).2.2 _ hmem _ (List.mem_cons_self ..) rfl
    rw [List.foldl_cons, upsert_of_not_mem acc x.1 x.2 hx, ih]
    · simp
    · simpa using h

theorem normKey_idem (k : Str) : normKey (normKey k) = normKey k := by
  unfold normKey
  rw [List.map_map]
  apply List.map_congr_left
  intro c _
  by_cases h : c = '-'
  · subst h
    rfl
  · simp [h]

theorem filter_sublist_filter {α} {p q : α → Bool} (l : List α) (h : ∀ x, p x = true → q x = true) :
    (l.filter p).Sublist (l.filter q) := by
  have hpq : l.filter p = (l.filter q).filter p := by
    rw [List.filter_filter]
    apply List.filter_congr
    intro x _
    cases hp : p x
    · rfl
    · rw [h x hp]
      rfl
  rw [hpq]
  exact List.filter_sublist

end ThaiLintModel.C05
