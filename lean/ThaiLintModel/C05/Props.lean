import ThaiLintModel.C05.Lemmas
namespace ThaiLintModel.C05

/-! ## Loading: precedence, no silent fallback, carrier independence -/

/-- **Precedence and no silent fallback** (repaired code): the configuration in effect is the deciding
    carrier's document (--config, then .thailint.yaml, .thailint.json, pyproject.toml), with normalised
    keys; the run ends with exit 2 exactly when a consulted file is unparsable or the --config file is
    missing — never a silent fallback to defaults. -/
theorem load_meets_spec (c : Carriers) : specLoad c (loadConfig true c) := by
  unfold specLoad deciding loadConfig discovered
  -- the four forms of `--config`, then the discovery chain: a file matters only if those before it are absent
  rcases c with ⟨y, j, p, _ | _ | _ | e⟩
  all_goals
    cases y with
    | absent =>
      cases j with
      | absent => cases p <;> simp
      | _ => simp
    | _ => simp

theorem exit2_iff_broken (c : Carriers) : loadConfig true c = .exit2 ↔ someConsultedBroken c = true := by
  unfold loadConfig discovered someConsultedBroken
  rcases c with ⟨y, j, p, _ | _ | _ | e⟩
  all_goals
    cases y with
    | absent =>
      cases j with
      | absent => cases p <;> simp
      | _ => simp
    | _ => simp

/-- finding F05d (before the repair): a malformed pyproject.toml meant "defaults", exit code 0/1 -/
theorem F05d_witness :
    loadConfig false ⟨.absent, .absent, .unparsable, none⟩ = .cfg Doc.empty ∧
    loadConfig true ⟨.absent, .absent, .unparsable, none⟩ = .exit2 := by decide

/-- **Every carrier is honoured identically**: the same document gives the same configuration whether it
    sits in .thailint.yaml, .thailint.json, pyproject.toml or is passed with --config (whatever else is
    on disk, as long as it parses) -/
theorem carrier_independent (d : Doc) :
    loadConfig true ⟨.ok d, .absent, .absent, none⟩ = .cfg (normalize d) ∧
    loadConfig true ⟨.absent, .ok d, .absent, none⟩ = .cfg (normalize d) ∧
    loadConfig true ⟨.absent, .absent, .ok d, none⟩ = .cfg (normalize d) ∧
    (∀ y j p, someConsultedBroken ⟨y, j, p, some (.ok d)⟩ = false → loadConfig true ⟨y, j, p, some (.ok d)⟩ = .cfg (normalize d)) := by
  refine ⟨rfl, rfl, rfl, ?_⟩
  intro y j p h
  -- `--config` decides, so the specification leaves exit 2 as the only alternative
  rcases load_meets_spec ⟨y, j, p, some (.ok d)⟩ with hcfg | hexit
  · exact hcfg
  · rw [(exit2_iff_broken _).mp hexit] at h
    cases h

/-! ## Key spelling -/

theorem normalize_eq (d : Doc) :
    normalize d =
      ⟨(d.sections.map fun kv => (normKey kv.1, kv.2)).foldl (fun acc kv => upsert acc kv.1 kv.2) [], d.ignore⟩ := by
  rw [List.foldl_map]
  rfl

/-- **Hyphens and underscores are interchangeable in section names**: two documents that differ only in
    how section keys are spelled load as the same configuration -/
theorem spelling_independent (d d' : Doc) (hi : d.ignore = d'.ignore)
    (h : d.sections.map (fun kv => (normKey kv.1, kv.2)) = d'.sections.map (fun kv => (normKey kv.1, kv.2))) :
    normalize d = normalize d' := by
  rw [normalize_eq, normalize_eq, h, hi]

/-- a linter finds its section under either spelling of its name -/
theorem section_found_either_spelling (d : Doc) (name : Str) :
    sectionOf d name = sectionOf d (normKey name) := by
  unfold sectionOf
  rw [normKey_idem]

/-! ## Normalising is stable -/

/-- a document whose section keys are already distinct after normalisation keeps its sections in order -/
theorem normalize_of_distinct (d : Doc) (h : (d.sections.map (fun kv => normKey kv.1)).Nodup) :
    normalize d = ⟨d.sections.map (fun kv => (normKey kv.1, kv.2)), d.ignore⟩ := by
  rw [normalize_eq, foldl_upsert_of_nodup]
  · rfl
  · rw [List.nil_append, List.map_map]
    exact h

/-- **Normalising is stable**: on such a document `normalize` only respells the keys, and `normKey` is idempotent -/
theorem normalize_idempotent (d : Doc) (h : (d.sections.map (fun kv => normKey kv.1)).Nodup) :
    normalize (normalize d) = normalize d := by
  rw [normalize_of_distinct d h, normalize_of_distinct]
  · simp only [List.map_map, Function.comp_def, normKey_idem]
  · simpa only [List.map_map, Function.comp_def, normKey_idem] using h

/-! ## Command-line thresholds -/

theorem lookup_opts_applyCli (r : Bool) (s : Section) (k : Str) (v : Val) (key : Str) :
    lookup (applyCli r s k v).opts key = if k == key then some v else lookup s.opts key :=
  lookup_upsert s.opts k key v

theorem lookup_langs_applyCli (s : Section) (k : Str) (v : Val) (lang : Str) :
    lookup (applyCli true s k v).langs lang =
      (lookup s.langs lang).map fun sub => if (lookup sub k).isSome then upsert sub k v else sub :=
  lookup_map_snd (fun sub => if (lookup sub k).isSome then upsert sub k v else sub) s.langs lang

/-- on the option a language sees, the repaired `applyCli` acts as `upsert` does on a dictionary -/
theorem effOpt_applyCli (s : Section) (lang key k : Str) (v : Val) :
    effOpt (applyCli true s k v) lang key = if k == key then some v else effOpt s lang key := by
  unfold effOpt
  rw [lookup_langs_applyCli, lookup_opts_applyCli]
  cases lookup s.langs lang with
  | none => rfl
  | some sub =>
    simp only [Option.map_some]
    by_cases hk : k = key
    · subst hk
      cases hsub : lookup sub k with
      | none => simp [hsub]
      | some w => simp [lookup_upsert]
    · have hsub : lookup (if (lookup sub k).isSome then upsert sub k v else sub) key = lookup sub key := by
        split
        · rw [lookup_upsert, if_neg (by simpa using hk)]
        · rfl
      simp only [hsub, beq_iff_eq, if_neg hk]

theorem effOpt_applyClis_of_ne (s : Section) (lang key : Str) (cli : Opts) (h : ∀ kv ∈ cli, kv.1 ≠ key) :
    effOpt (applyClis true s cli) lang key = effOpt s lang key := by
  induction cli generalizing s with
  | nil => rfl
  | cons kv rest ih =>
    have hrest : ∀ kv' ∈ rest, kv'.1 ≠ key := fun kv' hkv' => h kv' (List.mem_cons_of_mem _ hkv')
    show effOpt (applyClis true (applyCli true s kv.1 kv.2) rest) lang key = _
    rw [ih _ hrest, effOpt_applyCli, if_neg (by simpa using h kv (List.mem_cons_self ..))]

/-- **A command-line threshold beats the whole configuration file**, per-language overrides included,
    for every language (repaired code) -/
theorem cli_wins (s : Section) (lang key : Str) (v : Val) (rest : Opts) (hrest : ∀ kv ∈ rest, kv.1 ≠ key) :
    effOpt (applyClis true (applyCli true s key v) rest) lang key = some v := by
  rw [effOpt_applyClis_of_ne _ lang key rest hrest, effOpt_applyCli, if_pos (beq_self_eq_true key)]

/-- finding F05c (before the repair): `srp --max-methods 2` lost against `python: {max_methods: 50}` -/
theorem F05c_witness :
    let s : Section := ⟨[("max_methods".toList, .int 3)], [("python".toList, [("max_methods".toList, .int 50)])]⟩
    effOpt (applyCli false s "max_methods".toList (.int 2)) "python".toList "max_methods".toList = some (.int 50) ∧
    effOpt (applyCli true s "max_methods".toList (.int 2)) "python".toList "max_methods".toList = some (.int 2) ∧
    effOpt (applyCli true s "max_methods".toList (.int 2)) "rust".toList "max_methods".toList = some (.int 2) := by decide +kernel

/-- without a command-line option, a language's own override wins over the section's value, and the
    section's value over the default (`none`) -/
theorem override_order (s : Section) (lang key : Str) :
    effOpt s lang key = (match (lookup s.langs lang).bind (fun sub => lookup sub key) with
                         | some v => some v
                         | none => lookup s.opts key) := by
  unfold effOpt
  cases lookup s.langs lang with
  | none => rfl
  | some sub => cases lookup sub key <;> rfl

/-! ## Invalid values -/

/-- **A non-positive limit ends the run with exit 2**, wherever it comes from (file or command line) -/
theorem invalid_limit_exit2 (c : Carriers) (name : Str) (cli : Opts) (lang key : Str) (limits : List Str) (d : Doc) (z : Int)
    (hload : loadConfig true c = .cfg d) (hk : key ∈ limits)
    (hv : effOpt (applyClis true (sectionOf d name) cli) lang key = some (.int z)) (hz : z ≤ 0) :
    resolve true c name cli lang limits = .exit2 := by
  have hall : (limits.all fun k => limitOk (effOpt (applyClis true (sectionOf d name) cli) lang k)) = false := by
    rw [List.all_eq_false]
    refine ⟨key, hk, ?_⟩
    simp only [hv, limitOk, decide_eq_true_eq]
    omega
  simp only [resolve, hload, hall, Bool.false_eq_true, if_false]

theorem unparsable_exit2 (c : Carriers) (name : Str) (cli : Opts) (lang : Str) (limits : List Str)
    (h : someConsultedBroken c = true) : resolve true c name cli lang limits = .exit2 := by
  unfold resolve
  rw [(exit2_iff_broken c).mpr h]

/-! ## Top-level ignore list -/

/-- **The ignore list is honoured from every carrier** (repaired code) -/
theorem ignore_from_every_carrier (d : Doc) :
    ignoreInEffect true ⟨.ok d, .absent, .absent, none⟩ = d.ignore ∧
    ignoreInEffect true ⟨.absent, .ok d, .absent, none⟩ = d.ignore ∧
    ignoreInEffect true ⟨.absent, .absent, .ok d, none⟩ = d.ignore ∧
    ignoreInEffect true ⟨.absent, .absent, .absent, some (.ok d)⟩ = d.ignore := by
  refine ⟨rfl, rfl, rfl, rfl⟩

/-- finding F05b (before the repair): only .thailint.yaml counted -/
theorem F05b_witness :
    ignoreInEffect false ⟨.absent, .ok ⟨[], ["build/".toList]⟩, .absent, none⟩ = [] ∧
    ignoreInEffect true ⟨.absent, .ok ⟨[], ["build/".toList]⟩, .absent, none⟩ = ["build/".toList] := by decide +kernel

/-! ## Thresholds are monotone -/

/-- "reported when the measure exceeds the limit" (nesting depth, methods, lines): a more permissive
    limit never adds a report, a stricter one never removes one -/
theorem upper_limit_monotone (measures : List Nat) (l1 l2 : Nat) (h : l1 ≤ l2) :
    (measures.filter (fun m => decide (m > l2))).Sublist (measures.filter (fun m => decide (m > l1))) := by
  apply filter_sublist_filter
  intro m hm
  simp only [decide_eq_true_eq] at hm ⊢
  omega

/-- "reported when the measure reaches the minimum" (duplicate lines, continues, methods of a stateless
    class, occurrences): a higher minimum never adds a report -/
theorem lower_limit_monotone (measures : List Nat) (l1 l2 : Nat) (h : l1 ≤ l2) :
    (measures.filter (fun m => decide (m ≥ l2))).Sublist (measures.filter (fun m => decide (m ≥ l1))) := by
  apply filter_sublist_filter
  intro m hm
  simp only [decide_eq_true_eq] at hm ⊢
  omega

/-- an allow-list (magic numbers): a larger list never adds a report -/
theorem allow_list_monotone (values allowed allowed' : List Int) (h : ∀ x ∈ allowed, x ∈ allowed') :
    (values.filter (fun v => !allowed'.contains v)).Sublist (values.filter (fun v => !allowed.contains v)) := by
  apply filter_sublist_filter
  intro v hv
  simp only [Bool.not_eq_true', List.contains_eq_mem, decide_eq_false_iff_not] at hv ⊢
  exact fun hmem => hv (h v hmem)

/-! ## Non-vacuity -/

def demoDoc : Doc :=
  ⟨[("magic-numbers".toList, ⟨[("enabled".toList, .bool false)], []⟩),
    ("srp".toList, ⟨[("max_methods".toList, .int 3)], [("python".toList, [("max_methods".toList, .int 50)])]⟩)], ["build/".toList]⟩

example : resolve true ⟨.absent, .ok demoDoc, .ok Doc.empty, none⟩ "magic_numbers".toList [] "python".toList [] =
    .run ⟨[("enabled".toList, .bool false)], []⟩ ["build/".toList] := by decide +kernel
example : resolve true ⟨.absent, .absent, .absent, some (.ok demoDoc)⟩ "srp".toList [("max_methods".toList, .int 0)] "python".toList ["max_methods".toList] = .exit2 := by
  decide +kernel
example : someConsultedBroken ⟨.unparsable, .ok demoDoc, .absent, some (.ok demoDoc)⟩ = true := by decide +kernel

end ThaiLintModel.C05
