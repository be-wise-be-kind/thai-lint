import ThaiLintModel.C06.Model
import ThaiLintModel.Core.ListLemmas
namespace ThaiLintModel.C06

/-- **Exit code**: 0 exactly when a completed run reports nothing, 1 exactly when it reports
    something, 2 exactly when the run could not be performed. -/
theorem exit_iff (o : Outcome) :
    (exitCode o = 0 ↔ ∃ vs, o = .ran vs ∧ vs = []) ∧
    (exitCode o = 1 ↔ ∃ vs, o = .ran vs ∧ vs ≠ []) ∧
    (exitCode o = 2 ↔ ∀ vs, o ≠ .ran vs) := by
  cases o with
  | ran vs => cases vs <;> simp [exitCode]
  | _ => simp [exitCode]

theorem mapM_map_eq_some {α β γ : Type} {f : α → β} {g : β → Option γ} {h : α → γ}
    (hgf : ∀ a, g (f a) = some (h a)) (l : List α) : (l.map f).mapM g = some (l.map h) := by
  rw [List.mapM_map, show g ∘ f = (pure <| h ·) from funext hgf, List.mapM_pure]
  rfl

theorem parseJsonViolation_jsonViolation (san : String → String) (v : V) :
    parseJsonViolation (jsonViolation san v) = some (v.core san) := by
  simp [parseJsonViolation, jsonViolation, J.get, List.find?, V.core]

/-- **JSON**: the document parses back to exactly the violations found (paths and messages
    sanitised), and `total` is the number of listed violations. -/
theorem json_roundtrip (san : String → String) (vs : List V) :
    parseJson (renderJson san vs) = some (vs.map (V.core san), vs.length) := by
  simp [parseJson, renderJson, J.get, List.find?, mapM_map_eq_some (parseJsonViolation_jsonViolation san)]

theorem json_total (san : String → String) (vs : List V) :
    ∃ cs t, parseJson (renderJson san vs) = some (cs, t) ∧ t = cs.length :=
  ⟨_, _, json_roundtrip san vs, (List.length_map _).symm⟩

theorem parseSarifResult_sarifResult (v : V) : parseSarifResult (sarifResult v) = some (v.core id) := by
  simp [parseSarifResult, sarifResult, sarifRegion, J.get, List.find?, V.core]

/-- **SARIF**: one run whose results are exactly the violations found, columns shifted to 1-based. -/
theorem sarif_roundtrip (vs : List V) :
    parseSarif (renderSarif vs) = some (sarifRuleIds [] (vs.map (·.ruleId)), vs.map (V.core id)) := by
  simp [parseSarif, renderSarif, J.get, List.find?, mapM_map_eq_some parseSarifResult_sarifResult,
    List.filterMap_map, Function.comp_def]

theorem sarifRuleIds_eq_eraseDups (seen rs : List String) :
    sarifRuleIds seen rs = (rs.removeAll seen).eraseDups := by
  induction rs generalizing seen with
  | nil => rfl
  | cons a rest ih =>
    rw [sarifRuleIds, List.cons_removeAll]
    cases seen.contains a
    · simp only [Bool.false_eq_true, if_false, if_true, ih, List.removeAll_cons, List.eraseDups_cons]
      -- the filters "not `a`" and "not seen" commute
      simp only [List.removeAll, List.filter_filter, Bool.and_comm]
    · simp only [if_true, Bool.true_eq_false, if_false, ih]

theorem sarifRuleIds_nil_eq_eraseDups (rs : List String) : sarifRuleIds [] rs = rs.eraseDups := by
  rw [sarifRuleIds_eq_eraseDups, List.removeAll_nil]

/-- **every result's ruleId is declared in the driver's rules** -/
theorem sarif_rules_cover (vs : List V) : ∀ v ∈ vs, v.ruleId ∈ sarifRuleIds [] (vs.map (·.ruleId)) := by
  intro v hv
  rw [sarifRuleIds_nil_eq_eraseDups, List.mem_eraseDups]
  exact List.mem_map_of_mem hv

/-- each rule is declared once -/
theorem sarif_rules_nodup (vs : List V) : (sarifRuleIds [] (vs.map (·.ruleId))).Nodup := by
  rw [sarifRuleIds_nil_eq_eraseDups]
  exact nodup_eraseDups _

/-- **1-based positions**: `startColumn ≥ 1` always, and `startLine ≥ 1` whenever the violation carries
    a real (1-based) line — `startLine = line`, so a rule that reports line 0 yields an invalid region -/
theorem sarif_one_based (v : V) : (sarifRegion v).2 ≥ 1 ∧ ((sarifRegion v).1 ≥ 1 ↔ v.line ≥ 1) := by
  simp [sarifRegion]

/-- text: the numbers after the path identify (line, column) exactly when the violation has a real
    line or no column — `line = 0 ∧ column ≠ 0` would be read back as a line number -/
theorem text_nums_roundtrip (line column : Nat) :
    parseNums (locNums line column) = (line, column) ↔ ¬ (line = 0 ∧ column ≠ 0) := by
  by_cases hl : line = 0 <;> by_cases hc : column = 0 <;> simp [hl, hc, locNums, parseNums]

/-- **The three renderings describe the same multiset of violations** (indeed the same list): for
    every run whose violations carry a real line number, text and JSON agree exactly, and SARIF
    agrees with them up to `_sanitize_string` (SARIF prints paths and messages unsanitised; on
    surrogate-free text `san` is the identity and all three coincide). -/
theorem renderings_agree (san : String → String) (vs : List V) (hline : ∀ v ∈ vs, ¬ (v.line = 0 ∧ v.column ≠ 0)) :
    parseText (renderText san vs) = vs.map (V.core san) ∧
    (parseJson (renderJson san vs)).map (·.1) = some (vs.map (V.core san)) ∧
    (parseSarif (renderSarif vs)).map (·.2) = some (vs.map (V.core id)) := by
  refine ⟨?_, ?_, ?_⟩
  · simp only [parseText, renderText, List.map_map]
    apply List.map_congr_left
    intro v hv
    simp only [Function.comp, (text_nums_roundtrip v.line v.column).2 (hline v hv), V.core]
  · rw [json_roundtrip, Option.map_some]
  · rw [sarif_roundtrip, Option.map_some]

theorem renderings_agree_clean (vs : List V) (hline : ∀ v ∈ vs, ¬ (v.line = 0 ∧ v.column ≠ 0)) :
    some (parseText (renderText id vs)) = (parseJson (renderJson id vs)).map (·.1) ∧
    (parseJson (renderJson id vs)).map (·.1) = (parseSarif (renderSarif vs)).map (·.2) := by
  obtain ⟨h1, h2, h3⟩ := renderings_agree id vs hline
  rw [h1, h2, h3]
  exact ⟨rfl, rfl⟩

/-- witness: a violation with line 0 and a column is not recoverable from the text rendering -/
theorem text_ambiguity_witness : parseNums (locNums 0 5) = (5, 0) := by decide

/-- non-vacuity -/
example : (parseSarif (renderSarif [⟨"a.b", "f.py", 3, 0, "m"⟩, ⟨"c", "g.py", 1, 4, "n"⟩, ⟨"a.b", "f.py", 9, 2, "k"⟩])).map (·.1)
    = some ["a.b", "c"] := by
  rw [sarif_roundtrip]
  decide

end ThaiLintModel.C06
