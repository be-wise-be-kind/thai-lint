/-
C07 — `--parallel` reports exactly what the sequential run reports: theorems about the orchestrator
model, for all rule plug-ins (parameters), file lists, worker counts and completion orders.
-/
import ThaiLintModel.C07.Model
import ThaiLintModel.Core.OrchLemmas
namespace ThaiLintModel.C07
open ThaiLintModel ThaiLintModel.Orch

variable {F V E : Type}

/-- below the threshold the parallel entry point *is* the sequential one -/
theorem fallback_exact (R : Rules F V E) (P : Policy) (s : St E) (w : Nat) (fs done : List F)
    (h : fs.length < w * 2) (hne : fs ≠ []) : lintFilesParallel R P s w fs done = lintFiles R P s fs :=
  lintFilesParallel_of_lt hne h

/-- **Per-file findings do not depend on the number of workers, on how files are spread over them,
    or on the order in which the futures complete**: for every completion order `done` (any
    rearrangement of the file list) the per-file part is a rearrangement of the sequential one. -/
theorem perfile_schedule_independent (R : Rules F V E) (fs done : List F) (hd : done.Perm fs) :
    (done.flatMap R.perFile).Perm (fs.flatMap R.perFile) :=
  List.Perm.flatMap_right _ hd

/-- any two completion orders of the same run give the same multiset of violations -/
theorem schedule_independent (R : Rules F V E) (P : Policy) (s : St E) (w : Nat) (fs d1 d2 : List F)
    (h : d1.Perm d2) : (lintFilesParallel R P s w fs d1).2.Perm (lintFilesParallel R P s w fs d2).2 := by
  by_cases hne : fs = []
  · rw [hne, lintFilesParallel_nil, lintFilesParallel_nil]
  by_cases hsmall : fs.length < w * 2
  · rw [lintFilesParallel_of_lt hne hsmall, lintFilesParallel_of_lt hne hsmall]
  · rw [lintFilesParallel_of_not_lt hne hsmall, lintFilesParallel_of_not_lt hne hsmall]
    exact (h.flatMap_right _).append_right _

/-- **C07**: `--parallel` reports the same multiset of violations as the sequential run — per-file and
    cross-file findings alike — for every rule plug-in set, every non-empty file list (repeated entries
    included), every worker count, every completion order of the futures and every state the object was
    in before. -/
theorem parallel_eq_sequential (R : Rules F V E) (P : Policy) (s : St E) (w : Nat) (fs done : List F)
    (hd : done.Perm fs) (hne : fs ≠ []) :
    (lintFilesParallel R P s w fs done).2.Perm (lintFiles R P s fs).2 := by
  rw [← lintFilesParallel_self (w := w) hne]
  exact schedule_independent R P s w fs done fs hd

/-- the empty file list: the parallel entry point returns at once; the sequential one still finalizes,
    which on a fresh object is what the rules report for no evidence at all (nothing, for the real rules) -/
theorem parallel_empty (R : Rules F V E) (P : Policy) (s : St E) (w : Nat) (done : List F) :
    (lintFilesParallel R P s w [] done).2 = [] ∧ (lintFiles R P s []).2 = R.finalize s.store := by
  simp [lintFilesParallel_nil, lintFiles_eq]

/-- … and the object is left in the same state by both (what a later call on it will see) -/
theorem parallel_state_eq (R : Rules F V E) (P : Policy) (s : St E) (w : Nat) (fs done : List F) (hne : fs ≠ []) :
    (lintFilesParallel R P s w fs done).1.store = (lintFiles R P s fs).1.store := by
  by_cases hsmall : fs.length < w * 2
  · rw [lintFilesParallel_of_lt hne hsmall]
  · rw [lintFilesParallel_of_not_lt hne hsmall, lintFiles_eq]

theorem exit_code_of_perm {a b : List V} (h : a.Perm b) : exitCode a = exitCode b := by
  rw [exitCode, exitCode, h.isEmpty_eq]

/-- same exit code -/
theorem parallel_exit_eq_sequential (R : Rules F V E) (P : Policy) (s : St E) (w : Nat) (fs done : List F)
    (hd : done.Perm fs) (hne : fs ≠ []) :
    exitCode (lintFilesParallel R P s w fs done).2 = exitCode (lintFiles R P s fs).2 :=
  exit_code_of_perm (parallel_eq_sequential R P s w fs done hd hne)

theorem exit_schedule_independent (R : Rules F V E) (P : Policy) (s : St E) (w : Nat) (fs d1 d2 : List F)
    (h1 : d1.Perm fs) (h2 : d2.Perm fs) :
    exitCode (lintFilesParallel R P s w fs d1).2 = exitCode (lintFilesParallel R P s w fs d2).2 :=
  exit_code_of_perm (schedule_independent R P s w fs d1 d2 (h1.trans h2.symm))

/-! ## Finding F07a (repaired by b158f57): cross-file evidence stayed in the workers -/

/-- toy plug-in set over files = numbers: a per-file rule reporting odd numbers, and a DRY-like
    cross-file rule reporting every value that was collected more than once -/
def toy : Rules Nat String Nat where
  perFile := fun n => if n % 2 == 1 then [s!"odd {n}"] else []
  collect := fun n => [n / 10]
  finalize := fun es => (es.filter (fun e => es.count e > 1)).eraseDups.map (fun e => s!"dup {e}")

/-- the pooled branch as it was: the duplicate is lost with 2 workers (pooled) and found with 3 (fallback);
    as it is: found in both -/
theorem crossfile_lost_witness :
    (lintFiles toy ⟨true⟩ fresh [10, 11, 20, 31]).2 = ["odd 11", "odd 31", "dup 1"] ∧
    (lintFilesParallelOld toy ⟨true⟩ fresh 2 [10, 11, 20, 31] [31, 20, 11, 10]).2 = ["odd 31", "odd 11"] ∧
    (lintFilesParallelOld toy ⟨true⟩ fresh 3 [10, 11, 20, 31] [31, 20, 11, 10]).2 = ["odd 11", "odd 31", "dup 1"] ∧
    (lintFilesParallel toy ⟨true⟩ fresh 2 [10, 11, 20, 31] [31, 20, 11, 10]).2 = ["odd 31", "odd 11", "dup 1"] := by
  decide +kernel

/-- the two pooled branches differ only in what the parent finalizes: they report the same wherever the
    evidence of the run adds nothing to what `finalize()` makes of the stores as they were -/
theorem old_parallel_eq_parallel (R : Rules F V E) (P : Policy) (s : St E) (w : Nat) (fs done : List F)
    (hcross : R.finalize (s.store ++ fs.flatMap R.collect) = R.finalize s.store) :
    (lintFilesParallelOld R P s w fs done).2 = (lintFilesParallel R P s w fs done).2 := by
  rw [lintFilesParallelOld, lintFilesParallel]
  split
  · rfl
  split
  · rfl
  · exact congrArg (_ ++ ·) hcross.symm

/-- the old branch agreed with the sequential run exactly when the cross-file rules had nothing to add -/
theorem old_parallel_eq_sequential_partial (R : Rules F V E) (P : Policy) (w : Nat) (fs done : List F)
    (hd : done.Perm fs) (hne : fs ≠ [])
    (hcross : R.finalize (fs.flatMap R.collect) = R.finalize []) :
    (lintFilesParallelOld R P fresh w fs done).2.Perm (lintFiles R P fresh fs).2 := by
  rw [old_parallel_eq_parallel R P fresh w fs done hcross]
  exact parallel_eq_sequential R P fresh w fs done hd hne

/-! ## Transfer format -/

/-- every field of a violation survives the worker → parent transfer -/
theorem dict_roundtrip (v : Violation) : fromDict (toDict v) = some v := by
  cases v with
  | mk r f l c m s =>
    simp [toDict, fromDict, Dict.get, List.find?]
    cases s <;> rfl

/-- two different violations never travel as the same record (the transfer cannot merge findings) -/
theorem toDict_injective (a b : Violation) (h : toDict a = toDict b) : a = b := by
  have ha := dict_roundtrip a
  rw [h, dict_roundtrip b] at ha
  exact (Option.some.inj ha).symm

/-- a whole batch of worker results crosses the process boundary unchanged: nothing dropped,
    nothing duplicated, order kept -/
theorem batch_roundtrip (vs : List Violation) : (vs.map toDict).filterMap fromDict = vs := by
  rw [List.filterMap_map, show fromDict ∘ toDict = some from funext dict_roundtrip, List.filterMap_some]

/-- `Severity(data["severity"])` raises whatever else the record holds -/
theorem fromDict_eq_none_of_severity {d : Dict} (h : d.get "severity" ≠ .str "error") : fromDict d = none := by
  unfold fromDict
  split
  · next hsev => exact absurd hsev h
  · rfl

/-- a record whose severity is not the single `Severity` member is rejected, never defaulted -/
theorem bad_severity_rejected (v : Violation) (sev : String) (h : sev ≠ "error") :
    fromDict ((toDict v).map fun kv => if kv.1 == "severity" then (kv.1, Val.str sev) else kv) = none := by
  refine fromDict_eq_none_of_severity fun herror => h ?_
  -- looking `severity` up in the altered record gives `.str sev`
  simpa [toDict, Dict.get, List.find?] using herror

/-! ## Worker count -/

/-- the pool is never asked for zero workers when the default and the CPU count are positive,
    whatever `--max-workers` says (0 and "not given" both mean the default) -/
theorem effectiveWorkers_pos (mw : Option Nat) (dflt cpu : Nat) (hd : 0 < dflt) (hc : 0 < cpu) :
    0 < effectiveWorkers mw dflt cpu := by
  have hdefault : 0 < min dflt cpu := Nat.lt_min.mpr ⟨hd, hc⟩
  cases mw with
  | none => exact hdefault
  | some k =>
    cases k with
    | zero => exact hdefault
    | succ k => exact Nat.succ_pos k

/-- the default never exceeds the CPU count or the configured ceiling -/
theorem effectiveWorkers_default_le (dflt cpu : Nat) :
    effectiveWorkers none dflt cpu ≤ dflt ∧ effectiveWorkers none dflt cpu ≤ cpu ∧
    effectiveWorkers (some 0) dflt cpu = effectiveWorkers none dflt cpu :=
  ⟨Nat.min_le_left _ _, Nat.min_le_right _ _, rfl⟩

/-- an explicit positive `--max-workers` is taken as given -/
theorem effectiveWorkers_explicit (k dflt cpu : Nat) (hk : 0 < k) :
    effectiveWorkers (some k) dflt cpu = k := by
  have : k ≠ 0 := Nat.ne_of_gt hk
  simp [effectiveWorkers, this]

/-- below the pooling threshold `--parallel` *is* the sequential run, state and output -/
theorem small_runs_never_pool (R : Rules F V E) (P : Policy) (s : St E) (mw : Option Nat) (dflt cpu : Nat)
    (fs done : List F) (hne : fs ≠ []) (hsmall : fs.length < effectiveWorkers mw dflt cpu * 2) :
    lintFilesParallel R P s (effectiveWorkers mw dflt cpu) fs done = lintFiles R P s fs :=
  fallback_exact R P s _ fs done hsmall hne

end ThaiLintModel.C07
