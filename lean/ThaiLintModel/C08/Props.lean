import ThaiLintModel.C08.Model
import ThaiLintModel.Core.OrchLemmas
namespace ThaiLintModel.C08
open ThaiLintModel ThaiLintModel.Orch

variable {P C V E : Type} [DecidableEq P]

/-- with the reset policy every finalizing call leaves the cross-file stores empty -/
theorem lintFiles_resets (R : Rules F V E) (s : St E) (fs : List F) :
    (lintFiles R ⟨false⟩ s fs).1.store = [] := by
  rw [lintFiles_eq]
  rfl

/-- the file system after a history does not depend on the lint calls in it -/
def applyEdits (fs : FS P C) : List (Op P C) → FS P C
  | [] => fs
  | .write p c :: r => applyEdits (fs.write p c) r
  | .delete p :: r => applyEdits (fs.remove p) r
  | _ :: r => applyEdits fs r

theorem applyEdits_cons (fs : FS P C) (op : Op P C) (rest : List (Op P C)) :
    applyEdits fs (op :: rest) = applyEdits (applyEdits fs [op]) rest := by
  cases op <;> rfl

/-- what an operation does to the file system: lint calls nothing, edits what they say -/
theorem step_fs (R : Rules (P × C) V E) (pol : Policy) (w : World P C E) (op : Op P C) :
    (step R pol w op).1.fs = applyEdits w.fs [op] := by
  cases op with
  | lintFile p =>
    simp only [step]
    split <;> rfl
  | _ => rfl

theorem run_fs (R : Rules (P × C) V E) (pol : Policy) (w : World P C E) (ops : List (Op P C)) :
    (run R pol w ops).1.fs = applyEdits w.fs ops := by
  induction ops generalizing w with
  | nil => rfl
  | cons op rest ih =>
    rw [applyEdits_cons, ← step_fs R pol]
    exact ih _

/-- **No side effects on the project**: no lint operation changes the file system. -/
theorem lint_no_fs_writes (R : Rules (P × C) V E) (pol : Policy) (w : World P C E) (op : Op P C)
    (h : ∀ p c, op ≠ .write p c) (h' : ∀ p, op ≠ .delete p) : (step R pol w op).1.fs = w.fs := by
  rw [step_fs]
  cases op with
  | write p c => exact absurd rfl (h p c)
  | delete p => exact absurd rfl (h' p)
  | _ => rfl

/-- **Invariant over every history**: as long as only finalizing calls are made (Linter.lint,
    lint_files, lint_directory) the object's cross-file stores are empty between calls — whatever
    was linted, edited, deleted or created before. -/
theorem fresh_invariant (R : Rules (P × C) V E) (w : World P C E) (h0 : w.st.store = [])
    (ops : List (Op P C)) (hops : ∀ op ∈ ops, op.finalizing = true) :
    (run R ⟨false⟩ w ops).1.st.store = [] := by
  induction ops generalizing w with
  | nil => exact h0
  | cons op rest ih =>
    refine ih _ ?_ fun o ho => hops o (List.mem_cons_of_mem _ ho)
    have hop := hops op List.mem_cons_self
    cases op with
    | lintFiles ps => exact lintFiles_resets R w.st (present w.fs ps)
    | lintFile p => cases hop
    | write p c => exact h0
    | delete p => exact h0

/-- after a history of finalizing calls and edits the world is the edited file system with a fresh object -/
theorem run_finalizing (R : Rules (P × C) V E) (w : World P C E) (h0 : w.st.store = [])
    (ops : List (Op P C)) (hops : ∀ op ∈ ops, op.finalizing = true) :
    (run R ⟨false⟩ w ops).1 = { fs := applyEdits w.fs ops, st := fresh } := by
  rw [← run_fs R ⟨false⟩, ← St.eq_fresh (fresh_invariant R w h0 ops hops)]

/-- **A used object answers like a fresh one**: after *any* history of lint calls, edits, deletions
    and creations, the next call returns exactly what a fresh object returns on the files as they
    are now — edited files are judged by their new content, deleted files are gone, nothing seen
    earlier is reported again. -/
theorem next_call_as_fresh (R : Rules (P × C) V E) (w : World P C E) (h0 : w.st.store = [])
    (ops : List (Op P C)) (hops : ∀ op ∈ ops, op.finalizing = true) (ps : List P) :
    (step R ⟨false⟩ (run R ⟨false⟩ w ops).1 (.lintFiles ps)).2 =
      (lintFiles R ⟨false⟩ fresh (present (applyEdits w.fs ops) ps)).2 := by
  rw [run_finalizing R w h0 ops hops]
  rfl

/-- repetition: the same call twice in a row gives the same answer -/
theorem repeat_stable (R : Rules (P × C) V E) (w : World P C E) (h0 : w.st.store = []) (ps : List P) :
    let r1 := step R ⟨false⟩ w (.lintFiles ps)
    (step R ⟨false⟩ r1.1 (.lintFiles ps)).2 = r1.2 := by
  intro r1
  -- the first call found the stores empty and leaves them empty: the second starts from the same state
  have hst : r1.1.st = w.st := (St.eq_fresh (lintFiles_resets R w.st _)).trans (St.eq_fresh h0).symm
  show (lintFiles R ⟨false⟩ r1.1.st (present w.fs ps)).2 = (lintFiles R ⟨false⟩ w.st (present w.fs ps)).2
  rw [hst]

/-- **Order independence**: passing or discovering the files in another order gives the same
    multiset of violations, provided each cross-file rule's `finalize` is insensitive to the order
    in which evidence arrived (for DRY this is C03's `order_independent`). -/
theorem order_independent (R : Rules F V E) (pol : Policy) (fs fs' : List F) (hp : fs'.Perm fs)
    (hfin : ∀ es es' : List E, es'.Perm es → (R.finalize es').Perm (R.finalize es)) :
    (lintFiles R pol fresh fs').2.Perm (lintFiles R pol fresh fs).2 :=
  lintFiles_perm R pol fresh hp hfin

/-- toy plug-ins over (path, content) = (Nat, Nat): per-file rule flags odd contents, the
    cross-file rule reports contents collected more than once -/
def toy : Rules (Nat × Nat) String Nat where
  perFile := fun f => if f.2 % 2 == 1 then [s!"odd {f.1}"] else []
  collect := fun f => [f.2]
  finalize := fun es => (es.filter (fun e => es.count e > 1)).eraseDups.map (fun e => s!"dup {e}")

def w0 : World Nat Nat Nat := { fs := [(1, 10), (2, 10)], st := fresh }

/-- regression witness for the repaired finding F08a: with a rule that *keeps* its store after
    finalize (DRY before the fix) the second call still reports the duplicate although file 2 was
    edited; with the reset policy it does not -/
theorem stale_evidence_witness :
    (run toy ⟨true⟩ w0 [.lintFiles [1, 2], .write 2 12, .lintFiles [1, 2]]).2 = [["dup 10"], [], ["dup 10"]] ∧
    (run toy ⟨false⟩ w0 [.lintFiles [1, 2], .write 2 12, .lintFiles [1, 2]]).2 = [["dup 10"], [], []] := by
  decide +kernel

/-- finding F08b: `Orchestrator.lint_file` never finalizes, so what it collected is reported by the
    *next* finalizing call, which was asked about another file only -/
theorem lintFile_leak_witness :
    (run toy ⟨false⟩ w0 [.lintFile 1, .lintFiles [2]]).2 = [[], ["dup 10"]] ∧
    (run toy ⟨false⟩ w0 [.lintFiles [2]]).2 = [[]] := by
  decide +kernel

/-- non-vacuity of `next_call_as_fresh` -/
example : (run toy ⟨false⟩ w0 [.lintFiles [1, 2], .delete 1, .write 3 11, .lintFiles [1, 2, 3]]).2 =
    [["dup 10"], [], [], ["odd 3"]] := by decide +kernel

/-! ## Analyzer state: the obligation that lets `check` be treated as a function of the file -/

section Stateful
variable {σ G W : Type}

/-- **a forgetful rule reports, for every history and every order of the files, the union of what it reports on each file
    alone** — this is what lets the orchestrator model treat `check` as a function of the file -/
theorem forgetful_loop (R : SRule σ G W) (h : R.Forgetful) (s : σ) (fs : List G) :
    (R.loop s fs).2 = fs.flatMap R.alone := by
  induction fs generalizing s with
  | nil => simp [SRule.loop]
  | cons f fs ih => simp [SRule.loop, ih, h s f, SRule.alone]

theorem forgetful_history_independent (R : SRule σ G W) (h : R.Forgetful) (s s' : σ) (fs : List G) :
    (R.loop s fs).2 = (R.loop s' fs).2 := by
  rw [forgetful_loop R h s, forgetful_loop R h s']

theorem forgetful_order_independent (R : SRule σ G W) (h : R.Forgetful) (s s' : σ) (fs fs' : List G) (hp : fs'.Perm fs) :
    (R.loop s' fs').2.Perm (R.loop s fs).2 := by
  rw [forgetful_loop R h s, forgetful_loop R h s']
  exact List.Perm.flatMap_right _ hp

/-- what the seeded changes `C08-r2m1`, `C10-r2m1`, `C11-r3m2`, `C19-r3m1` … did: an analyzer that keeps the names it has
    learned.  A file is (the alias it declares for the regex module, the name it calls in a loop); the call is reported when the
    name is a known alias -/
def leaky : SRule (List Nat) (Nat × Nat) String where
  init := [0]
  check := fun known f =>
    let known' := f.1 :: known          -- never reset
    (known', if known'.contains f.2 then [s!"regex call through {f.2}"] else [])

/-- … is not forgetful, and its findings depend on the order of the files -/
theorem leaky_is_order_dependent :
    (leaky.loop leaky.init [(5, 5), (0, 5)]).2 = ["regex call through 5", "regex call through 5"] ∧
    (leaky.loop leaky.init [(0, 5), (5, 5)]).2 = ["regex call through 5"] ∧
    leaky.alone (0, 5) = [] := by decide

/-- the same analyzer with the reset the real code has -/
def resetting : SRule (List Nat) (Nat × Nat) String where
  init := [0]
  check := fun _ f =>
    let known' := [f.1, 0]
    (known', if known'.contains f.2 then [s!"regex call through {f.2}"] else [])

example : resetting.Forgetful := fun _ _ => rfl

end Stateful

end ThaiLintModel.C08
