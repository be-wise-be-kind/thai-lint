import ThaiLintModel.C09.Model
import ThaiLintModel.C14.Lemmas
namespace ThaiLintModel.C09
open ThaiLintModel ThaiLintModel.C14

theorem relativeTo_append (above q : Path) : relativeTo above (above ++ q) = some q := by
  simp [relativeTo, List.isPrefixOf_iff_prefix]

theorem hardExcluded_eq_spec (above q : Path) (hq : q ≠ []) :
    hardExcluded above (above ++ q) = C14.hardExcluded [] q := by
  simp only [hardExcluded, C14.hardExcluded, dirPartsInProject, relativeTo_append, getLast?_append_of_ne_nil above hq,
    dirParts, List.nil_append]
  -- the two sides differ only in which compiled `match` tests the last component
  rfl

/-- **Built-in exclusion is decided by the path inside the project**: wherever the project lives
    (`above` arbitrary — `build`, `dist`, `venv`, … included), a file is excluded iff its suffix is a
    compiled one or one of its directories *inside the project* is an always-excluded name. -/
theorem hardExcluded_relocate (above above' q : Path) (hq : q ≠ []) :
    hardExcluded above (above ++ q) = hardExcluded above' (above' ++ q) := by
  rw [hardExcluded_eq_spec above q hq, hardExcluded_eq_spec above' q hq]

/-- **Repository ignore patterns see the path inside the project**, whatever leads to it -/
theorem checkPath_relocate (above q : Path) : checkPath above (above ++ q) = q := by
  simp [checkPath, relativeTo_append]

/-- a site that looks at the project-relative string cannot depend on the location -/
theorem markerHit_relocate (markers : List (List Char)) (above above' q : Path) :
    markerHit markers true above q = markerHit markers true above' q := rfl

/-- witness: a site that looks at the full path string does depend on it (a TypeScript file of a
    project under `…/test_data/` is exempted as "test code") -/
theorem markerHit_full_path_witness :
    markerHit ["test_".toList, "/tests/".toList] false ["tmp".toList, "test_data".toList] ["src".toList, "b.ts".toList] = true ∧
    markerHit ["test_".toList, "/tests/".toList] false ["tmp".toList, "work".toList] ["src".toList, "b.ts".toList] = false := by
  decide

/-- regression witness (fix bd0e3d3): a project under a directory called `build` -/
example : hardExcluded ["tmp".toList, "build".toList, "proj".toList]
    (["tmp".toList, "build".toList, "proj".toList] ++ ["src".toList, "a.py".toList]) = false ∧
    hardExcluded ["tmp".toList, "proj".toList] (["tmp".toList, "proj".toList] ++ ["build".toList, "a.py".toList]) = true := by
  decide

/-! ## Every spelling of a location resolves to the same path -/

theorem walkSegs_empty (start : Path) (rest : List Name) : walkSegs start ([] :: rest) = walkSegs start rest := rfl

theorem walkSegs_dot (start : Path) (rest : List Name) : walkSegs start (['.'] :: rest) = walkSegs start rest := rfl

theorem walkSegs_dotdot (start : Path) (rest : List Name) :
    walkSegs start (['.', '.'] :: rest) = walkSegs start.dropLast rest := rfl

theorem walkSegs_name (start : Path) (rest : List Name) {n : Name} (hn : isSpecial n = false) :
    walkSegs start (n :: rest) = walkSegs (start ++ [n]) rest := by
  simp only [isSpecial, Bool.or_eq_false_iff] at hn
  simp only [walkSegs, hn.1.1, hn.1.2, hn.2, Bool.false_or, Bool.false_eq_true, if_false]

theorem walkSegs_append (start : Path) (a b : List Name) : walkSegs start (a ++ b) = walkSegs (walkSegs start a) b := by
  induction a generalizing start with
  | nil => rfl
  | cons seg rest ih =>
    simp only [List.cons_append, walkSegs]
    split
    · exact ih start
    · split
      · exact ih _
      · exact ih _

/-- plain names just extend the path -/
theorem walkSegs_plain (start : Path) (names : List Name) (h : ∀ n ∈ names, isSpecial n = false) : walkSegs start names = start ++ names := by
  induction names generalizing start with
  | nil => exact (List.append_nil start).symm
  | cons n rest ih =>
    rw [walkSegs_name start rest (h n List.mem_cons_self), ih _ (fun m hm => h m (List.mem_cons_of_mem n hm)),
      List.append_assoc, List.singleton_append]

/-- **"./" and empty segments change nothing** -/
theorem dot_is_neutral (start : Path) (a b : List Name) :
    walkSegs start (a ++ [['.']] ++ b) = walkSegs start (a ++ b) ∧ walkSegs start (a ++ [[]] ++ b) = walkSegs start (a ++ b) := by
  simp only [List.append_assoc, List.singleton_append, walkSegs_append start a, walkSegs_dot, walkSegs_empty, and_self]

/-- **"name/.." changes nothing** -/
theorem name_dotdot_cancels (start : Path) (a b : List Name) (n : Name) (hn : isSpecial n = false) :
    walkSegs start (a ++ [n, ['.', '.']] ++ b) = walkSegs start (a ++ b) := by
  rw [List.append_assoc, walkSegs_append start a, walkSegs_append start a, List.cons_append, List.cons_append,
    List.nil_append, walkSegs_name _ _ hn, walkSegs_dotdot, List.dropLast_concat]

/-- **The absolute spelling and the relative spelling from any working directory name the same path**: walking
    `rel` from `cwd` equals walking `cwd ++ rel` from the root, when `cwd` itself is a resolved path -/
theorem relative_eq_absolute (cwd : Path) (rel : List Name) (hcwd : ∀ n ∈ cwd, isSpecial n = false) :
    resolveSpelling cwd false rel = resolveSpelling cwd true (cwd ++ rel) := by
  unfold resolveSpelling
  simp only [Bool.false_eq_true, if_false, if_true]
  rw [walkSegs_append, walkSegs_plain [] cwd hcwd, List.nil_append]

/-- a resolved path is its own resolution -/
theorem resolve_idempotent (p : Path) (hp : ∀ n ∈ p, isSpecial n = false) : resolveSpelling [] true p = p := by
  unfold resolveSpelling
  rw [if_pos rfl, walkSegs_plain [] p hp, List.nil_append]

/-- consequence for the linter: from a sub-directory, `..`-spellings reach the same project-relative path, so the
    exclusion / ignore decisions (which only see the path inside the project) are the same -/
theorem spelling_does_not_change_decisions (above q : Path) (sub : Name) (hsub : isSpecial sub = false)
    (habove : ∀ n ∈ above, isSpecial n = false) (hq : ∀ n ∈ q, isSpecial n = false) :
    checkPath above (resolveSpelling (above ++ [sub]) false (['.', '.'] :: q)) = q := by
  unfold resolveSpelling
  rw [if_neg Bool.false_ne_true, walkSegs_dotdot, List.dropLast_concat, walkSegs_plain above q hq]
  exact checkPath_relocate above q

/-- **Resolution yields a normal form**: starting from a resolved directory, whatever the spelling (any mix of
    ".", "", ".." and names), the resolved path contains no ".", "" or ".." segment -/
theorem walkSegs_resolved (segs : List Name) : ∀ (start : Path), (∀ n ∈ start, isSpecial n = false) →
    ∀ n ∈ walkSegs start segs, isSpecial n = false := by
  induction segs with
  | nil => intro start h; exact h
  | cons seg rest ih =>
    intro start h
    cases hseg : isSpecial seg with
    | false =>
      rw [walkSegs_name start rest hseg]
      refine ih _ (fun n hn => ?_)
      rcases List.mem_append.mp hn with hn | hn
      · exact h n hn
      · rw [List.mem_singleton.mp hn, hseg]
    | true =>
      simp only [isSpecial, Bool.or_eq_true, beq_iff_eq] at hseg
      rcases hseg with (rfl | rfl) | rfl
      · rw [walkSegs_empty]
        exact ih start h
      · rw [walkSegs_dot]
        exact ih start h
      · rw [walkSegs_dotdot]
        exact ih _ (fun n hn => h n (List.dropLast_subset _ hn))

/-- **Resolving twice is resolving once**, for every spelling and every resolved working directory -/
theorem resolve_resolve (cwd : Path) (absolute : Bool) (segs : List Name) (hcwd : ∀ n ∈ cwd, isSpecial n = false) :
    resolveSpelling [] true (resolveSpelling cwd absolute segs) = resolveSpelling cwd absolute segs := by
  apply resolve_idempotent
  unfold resolveSpelling
  apply walkSegs_resolved
  cases absolute
  · simpa using hcwd
  · simp

/-- ".." at the file-system root stays at the root (as `os.path.abspath` and `Path.resolve` do) -/
theorem dotdot_at_root (b : List Name) : walkSegs [] (['.', '.'] :: b) = walkSegs [] b :=
  walkSegs_dotdot [] b

/-- so the decisions taken on a resolved path see only plain names: every spelling of a file of the project is judged
    by the same project-relative components -/
theorem decisions_see_plain_names (above : Path) (cwd : Path) (absolute : Bool) (segs : List Name) (q : Path)
    (hres : resolveSpelling cwd absolute segs = above ++ q) :
    checkPath above (resolveSpelling cwd absolute segs) = q ∧
    hardExcluded above (resolveSpelling cwd absolute segs) = hardExcluded above (above ++ q) := by
  rw [hres]; exact ⟨checkPath_relocate above q, rfl⟩

/-! ### symbolic links -/

/-- without links the link-aware walk is the plain walk -/
theorem walkSegsL_nil (start : Path) (segs : List Name) : walkSegsL [] start segs = walkSegs start segs := by
  induction segs generalizing start with
  | nil => rfl
  | cons seg rest ih =>
    simp only [walkSegsL, walkSegs, follow, List.find?_nil, ih]

/-- **a spelling that goes through a link resolves to what the same spelling through the link's target
    resolves to**: reaching the project as `link/…` and as `proj/…` names the same files -/
theorem through_link (links : Links) (par : Path) (n : Name) (tgt : Path) (rest : List Name)
    (hn : isSpecial n = false) (h : follow links (par ++ [n]) = tgt) :
    walkSegsL links par (n :: rest) = walkSegsL links tgt rest := by
  simp only [isSpecial, Bool.or_eq_false_iff] at hn
  simp only [walkSegsL, hn.1.1, hn.1.2, hn.2, Bool.false_or, Bool.false_eq_true, if_false, h]

example : resolveSpellingL [(["w".toList, "link".toList], ["w".toList, "proj".toList])] ["w".toList] false
    ["link".toList, "src".toList, "..".toList, "lib".toList] = ["w".toList, "proj".toList, "lib".toList] := by decide

end ThaiLintModel.C09
