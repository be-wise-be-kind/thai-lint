import ThaiLintModel.C11.Model
namespace ThaiLintModel.C11

variable {V : Type}

def noValue (rules : List (Nat × Outcome V)) : Bool := rules.all fun ro => match ro.2 with | .raises .value => false | _ => true

/-- `_execute_rules` in closed form: a non-Unicode ValueError of any rule ends it; otherwise it returns what the
    rules that ran through report, and one failure record for every rule that raised -/
theorem runRules_eq (file : Nat) (rules : List (Nat × Outcome V)) :
    runRules file rules =
      if noValue rules then
        .ok (rules.flatMap fun ro => match ro.2 with | .ok vs => vs | .raises _ => [],
             rules.filterMap fun ro => match ro.2 with | .ok _ => none | .raises e => some ⟨file, ro.1, e⟩)
      else .error .value := by
  induction rules with
  | nil => rfl
  | cons ro rest ih =>
    obtain ⟨r, o⟩ := ro
    have hnv : noValue ((r, o) :: rest) = ((match o with | .raises .value => false | _ => true) && noValue rest) := rfl
    rw [hnv]
    cases o with
    | ok vs =>
      rw [runRules, ih]
      cases noValue rest <;> rfl
    | raises e =>
      cases e with
      | value => rfl
      | _ =>
        simp only [runRules, ih]
        cases noValue rest <;> rfl

theorem lintFile_ok_iff (f : FileRun V) : (∃ p, lintFile f = .ok p) ↔ contained f = true := by
  unfold lintFile contained
  cases f.pre with
  | skipped => simp
  | detectRaises e => simp
  | lint =>
    show _ ↔ noValue f.rules = true
    rw [runRules_eq]
    cases noValue f.rules <;> simp

theorem runRules_log_nil_iff (file : Nat) (rules : List (Nat × Outcome V)) :
    (∃ vs, runRules file rules = .ok (vs, [])) ↔
      (rules.all fun ro => match ro.2 with | .ok _ => true | _ => false) = true := by
  -- a rule returns exactly when it raises no ValueError and leaves no failure record
  have hrule : ∀ ro : Nat × Outcome V, (match ro.2 with | .ok _ => true | _ => false) = true ↔
      (match ro.2 with | .raises .value => false | _ => true) = true ∧
        (match ro.2 with | .ok _ => none | .raises e => some (Fail.mk file ro.1 e)) = none := by
    rintro ⟨r, vs | e⟩ <;> simp
  have hrules : (rules.all fun ro => match ro.2 with | .ok _ => true | _ => false) = true ↔ noValue rules = true ∧
      (rules.filterMap fun ro => match ro.2 with | .ok _ => none | .raises e => some (Fail.mk file ro.1 e)) = [] := by
    simp only [noValue, List.all_eq_true, List.filterMap_eq_nil_iff, hrule, imp_and, forall_and]
  rw [runRules_eq, hrules]
  cases noValue rules <;> simp

theorem lintFile_log_nil_iff (f : FileRun V) : (∃ vs, lintFile f = .ok (vs, [])) ↔ healthy f = true := by
  unfold lintFile healthy
  cases f.pre with
  | skipped => simp
  | detectRaises e => simp
  | lint => exact runRules_log_nil_iff f.file f.rules

/-- the run over two stretches of files, e.g. the run without a file that stood between them: the first
    escaping exception ends it, otherwise each stretch contributes its share -/
theorem without_file (pre post : List (FileRun V)) :
    lintAll (pre ++ post) =
      (match lintAll pre, lintAll post with
       | .ok p, .ok q => .ok (p.1 ++ q.1, p.2 ++ q.2)
       | .error e, _ => .error e
       | .ok _, .error e => .error e) := by
  induction pre with
  | nil =>
    simp only [List.nil_append, lintAll]
    cases lintAll post <;> simp
  | cons f fs ih =>
    simp only [List.cons_append, lintAll]
    rw [ih]
    cases lintFile f with
    | error e => rfl
    | ok p => cases lintAll fs <;> cases lintAll post <;> simp [List.append_assoc]

/-- **An offending file cannot disturb its siblings**: as long as the file is contained, the violations
    and failure records of the files before and after it are exactly those of the run without it — the
    file only adds its own — for every list of files and every behaviour of every rule -/
theorem siblings_unaffected (pre post : List (FileRun V)) (b : FileRun V) (h : contained b = true) :
    ∃ pb, lintFile b = .ok pb ∧
      lintAll (pre ++ b :: post) =
        (match lintAll pre, lintAll post with
         | .ok p, .ok q => .ok (p.1 ++ pb.1 ++ q.1, p.2 ++ pb.2 ++ q.2)
         | .error e, _ => .error e
         | .ok _, .error e => .error e) := by
  obtain ⟨pb, hpb⟩ := (lintFile_ok_iff b).mpr h
  refine ⟨pb, hpb, ?_⟩
  rw [without_file]
  simp only [lintAll, hpb]
  cases lintAll pre <;> cases lintAll post <;> simp [List.append_assoc]

theorem lintAll_cons_eq_ok_iff (f : FileRun V) (rest : List (FileRun V)) (r : List V × List Fail) :
    lintAll (f :: rest) = .ok r ↔
      ∃ p q, lintFile f = .ok p ∧ lintAll rest = .ok q ∧ r = (p.1 ++ q.1, p.2 ++ q.2) := by
  rw [lintAll]
  cases lintFile f <;> cases lintAll rest <;> simp [eq_comm]

/-- in parallel mode nothing escapes a worker, and on contained files both modes report the same -/
theorem parallel_matches_sequential (fs : List (FileRun V)) (h : fs.all contained = true) :
    lintAll fs = .ok (lintAllParallel fs) := by
  induction fs with
  | nil => rfl
  | cons f rest ih =>
    simp only [List.all_cons, Bool.and_eq_true] at h
    obtain ⟨p, hp⟩ := (lintFile_ok_iff f).mpr h.1
    simp only [lintAll, hp, ih h.2, lintAllParallel, List.foldr_cons, worker]

/-- conversely, a run that completes met contained files only -/
theorem contained_of_lintAll_ok (fs : List (FileRun V)) (r : List V × List Fail) (h : lintAll fs = .ok r) :
    fs.all contained = true := by
  induction fs generalizing r with
  | nil => rfl
  | cons f rest ih =>
    obtain ⟨p, q, hp, hq, -⟩ := (lintAll_cons_eq_ok_iff f rest r).mp h
    rw [List.all_cons, (lintFile_ok_iff f).mp ⟨p, hp⟩, ih q hq]
    rfl

theorem exitCode_ok_ne_two (p : List V × List Fail) : exitCode (.ok p) ≠ 2 := by
  simp only [exitCode]
  split <;> omega

/-- **Exit code 0 or 1 exactly when every file is contained** (sequential mode) -/
theorem exit_ok_iff_contained (fs : List (FileRun V)) : exitCode (lintAll fs) ≠ 2 ↔ fs.all contained = true := by
  constructor
  · intro hne
    cases h : lintAll fs with
    | error e => exact absurd (congrArg exitCode h) hne
    | ok r => exact contained_of_lintAll_ok fs r h
  · intro hc
    rw [parallel_matches_sequential fs hc]
    exact exitCode_ok_ne_two _

/-- **No failure record means no rule abandoned its analysis**: in a run that completes with an empty
    failure log, every rule returned normally on every file it ran on — and conversely -/
theorem empty_log_iff_healthy (fs : List (FileRun V)) :
    (∃ vs, lintAll fs = .ok (vs, [])) ↔ fs.all healthy = true := by
  induction fs with
  | nil => simp [lintAll]
  | cons f rest ih =>
    rw [List.all_cons, Bool.and_eq_true, ← lintFile_log_nil_iff, ← ih]
    constructor
    · rintro ⟨vs, h⟩
      obtain ⟨⟨a, b⟩, ⟨c, d⟩, hp, hq, hr⟩ := (lintAll_cons_eq_ok_iff f rest _).mp h
      obtain ⟨rfl, rfl⟩ := List.append_eq_nil_iff.mp (Prod.mk.inj hr).2.symm
      exact ⟨⟨a, hp⟩, ⟨c, hq⟩⟩
    · rintro ⟨⟨a, ha⟩, ⟨c, hc⟩⟩
      exact ⟨a ++ c, (lintAll_cons_eq_ok_iff f rest _).mpr ⟨_, _, ha, hc, rfl⟩⟩

/-- the one escape route that is not a configuration error (kept as documentation of the mechanism):
    language detection runs outside the per-rule isolation, so an exception there ends the whole run -/
theorem detection_is_not_isolated (pre post : List (FileRun V)) (b : FileRun V) (e : Exc) (hb : b.pre = .detectRaises e)
    (hpre : pre.all contained = true) : lintAll (pre ++ b :: post) = .error e := by
  rw [without_file, parallel_matches_sequential pre hpre]
  simp only [lintAll, lintFile, hb]

theorem lintAllParallel_eq (fs : List (FileRun V)) :
    lintAllParallel fs = (fs.flatMap fun f => (worker f).1, fs.flatMap fun f => (worker f).2) := by
  induction fs with
  | nil => rfl
  | cons f rest ih => rw [lintAllParallel, List.foldr_cons, ← lintAllParallel, ih, List.flatMap_cons, List.flatMap_cons]

/-- **The completion order of the workers does not matter**: any rearrangement of the files yields the same
    violations and the same failure records, rearranged -/
theorem parallel_order_independent (fs fs' : List (FileRun V)) (h : fs'.Perm fs) :
    (lintAllParallel fs').1.Perm (lintAllParallel fs).1 ∧ (lintAllParallel fs').2.Perm (lintAllParallel fs).2 := by
  rw [lintAllParallel_eq, lintAllParallel_eq]
  exact ⟨h.flatMap_right _, h.flatMap_right _⟩

/-! ## Non-vacuity -/

example : lintAll [⟨1, .lint, [(1, .ok [10]), (2, .raises (.other 7)), (3, .ok [11])]⟩, ⟨2, .skipped, [(1, .raises .value)]⟩, ⟨3, .lint, [(1, .ok [12])]⟩] =
    .ok ([10, 11, 12], [⟨1, 2, .other 7⟩]) := by rfl
example : exitCode (lintAll [⟨1, .lint, [(1, .ok [10]), (2, .raises .value)]⟩, ⟨3, .lint, [(1, .ok [12])]⟩]) = 2 := by decide
example : (lintAllParallel [⟨1, .lint, [(1, .ok [10]), (2, .raises .value)]⟩, ⟨3, .lint, [(1, .ok [12])]⟩]).1 = [12] := by decide

end ThaiLintModel.C11
