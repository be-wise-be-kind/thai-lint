/-
C12 — what the model's recursive functions do on each form of input: `splitOn` as an induction principle
over a text together with its lines; `pointOf`, `offsetOf`, `tokenizeFrom`, `splitRaw` as equations; `windows`
by where a member comes from.
-/
import ThaiLintModel.C12.Model
namespace ThaiLintModel.C12

variable {α : Type} [DecidableEq α]

theorem splitOn_ne_nil (nl : α) (s : List α) : splitOn nl s ≠ [] := by
  fun_cases splitOn nl s <;> exact List.cons_ne_nil _ _

/-- Induction over a text and its lines: a newline opens a new empty first line, any other character
    joins the first line; there always is a first line. -/
theorem splitOn_induction (nl : α) {motive : List α → List (List α) → Prop}
    (nil : motive [] [[]])
    (newline : ∀ r hd tl, motive r (hd :: tl) → motive (nl :: r) ([] :: hd :: tl))
    (other : ∀ c r hd tl, c ≠ nl → motive r (hd :: tl) → motive (c :: r) ((c :: hd) :: tl))
    (s : List α) : motive s (splitOn nl s) := by
  induction s with
  | nil => exact nil
  | cons c r ih =>
    obtain ⟨hd, tl, heq⟩ := List.exists_cons_of_ne_nil (splitOn_ne_nil nl r)
    rw [splitOn, heq]
    rw [heq] at ih
    by_cases hc : c = nl
    · rw [if_pos hc, hc]
      exact newline r hd tl ih
    · rw [if_neg hc]
      exact other c r hd tl hc ih

theorem pointOf_zero (nl : α) (s : List α) : pointOf nl s 0 = (0, 0) := by
  cases s <;> rfl

theorem pointOf_cons_nl (nl : α) (r : List α) (off : Nat) :
    pointOf nl (nl :: r) (off + 1) = ((pointOf nl r off).1 + 1, (pointOf nl r off).2) :=
  if_pos rfl

/-- a character in front moves the positions of the first line one column to the right and leaves the others alone -/
theorem pointOf_cons_ne {nl c : α} (hc : c ≠ nl) (r : List α) (off : Nat) :
    pointOf nl (c :: r) (off + 1) =
      if (pointOf nl r off).1 = 0 then (0, (pointOf nl r off).2 + 1) else pointOf nl r off :=
  if_neg hc

theorem offsetOf_zero (nl : α) (s : List α) (col : Nat) : offsetOf nl s 0 col = col := by
  rw [offsetOf]

omit [DecidableEq α] in
/-- line `n` yields its token unless it is skipped or `step` drops it; `step`'s state advances unless the line is skipped -/
theorem tokenizeFrom_cons {σ : Type} (step : σ → List α → σ × Option (List α)) (skip : Nat → Bool) (st : σ) (n : Nat)
    (l : List α) (rest : List (List α)) :
    tokenizeFrom step skip st n (l :: rest) =
      ((if skip n then none else (step st l).2).map fun t => (n, t)).toList ++
        tokenizeFrom step skip (if skip n then st else (step st l).1) (n + 1) rest := by
  rw [tokenizeFrom]
  by_cases hs : skip n = true
  · simp [hs]
  · cases hr : (step st l).2 <;> simp [hs, hr]

omit [DecidableEq α] in
/-- a window is cut from the front of a suffix `x :: rest` of the token list and ends with the suffix's token `k - 1` -/
theorem mem_windows {k : Nat} {tr : List (Nat × List α)} {w : Window α} (hw : w ∈ windows k tr) :
    ∃ i x rest y, tr.drop i = x :: rest ∧ 0 < k ∧ (x :: rest)[k - 1]? = some y ∧
      w = ⟨x.1, y.1, ((x :: rest).take k).map (·.2)⟩ := by
  induction tr with
  | nil => cases hw
  | cons x rest ih =>
    rw [windows] at hw
    split at hw
    · next hk =>
      rcases List.mem_cons.mp hw with rfl | hw'
      · have hle : k ≤ (x :: rest).length := hk.1 ▸ List.length_take_le' k (x :: rest)
        have hy := List.getElem?_eq_getElem (Nat.sub_one_lt_of_le hk.2 hle)
        refine ⟨0, x, rest, _, rfl, hk.2, hy, ?_⟩
        rw [List.getLast?_take, if_neg (Nat.ne_of_gt hk.2), hy]
        rfl
      · obtain ⟨i, hi⟩ := ih hw'
        exact ⟨i + 1, hi⟩
    · cases hw

theorem splitRaw_cons_other (c : Char) (r : List Char) (h1 : c ≠ '\n') (h2 : c ≠ '\r') :
    splitRaw (c :: r) = match splitRaw r with
      | h :: t => (c :: h) :: t
      | [] => [[c]] :=
  splitRaw.eq_5 c r (fun _ hc _ => h2 hc) h1 h2

end ThaiLintModel.C12
