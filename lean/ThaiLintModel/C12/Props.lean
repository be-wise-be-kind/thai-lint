import ThaiLintModel.C12.Lemmas
namespace ThaiLintModel.C12

variable {α : Type} [DecidableEq α]

theorem pointOf_row (nl : α) : ∀ (s : List α) (off : Nat), (pointOf nl s off).1 = (s.take off).count nl
  | [], _ => by
    rw [List.take_nil]
    rfl
  | _ :: _, 0 => rfl
  | c :: r, off + 1 => by
    by_cases hc : c = nl
    · subst hc
      rw [List.take_succ_cons, List.count_cons_self, ← pointOf_row c r off, pointOf_cons_nl]
    · rw [List.take_succ_cons, List.count_cons_of_ne hc, ← pointOf_row nl r off, pointOf_cons_ne hc]
      split
      · next hrow => exact hrow.symm
      · rfl

/-- the number of lines is the number of newline symbols plus one -/
theorem split_length (nl : α) (s : List α) : (splitOn nl s).length = s.count nl + 1 := by
  refine splitOn_induction nl (motive := fun s ls => ls.length = s.count nl + 1) rfl ?_ ?_ s
  · intro r hd tl ih
    rw [List.count_cons_self, ← ih]
    rfl
  · intro c r hd tl hc ih
    rw [List.count_cons_of_ne hc]
    exact ih

/-- the row of any offset is a line of the file -/
theorem point_row_lt (nl : α) (s : List α) : ∀ off, (pointOf nl s off).1 < (splitOn nl s).length := by
  intro off
  rw [pointOf_row, split_length]
  exact Nat.lt_succ_of_le ((List.take_sublist off s).count_le nl)

/-- **The reported position is a real position**: for a node that starts at a character of the file (not
    a newline), the row is a line of the file and the column indexes exactly that character in it -/
theorem point_char (nl : α) (s : List α) : ∀ off (x : α), s[off]? = some x → x ≠ nl →
    ∃ line, (splitOn nl s)[(pointOf nl s off).1]? = some line ∧ line[(pointOf nl s off).2]? = some x := by
  refine splitOn_induction nl (motive := fun s ls => ∀ off (x : α), s[off]? = some x → x ≠ nl →
    ∃ line, ls[(pointOf nl s off).1]? = some line ∧ line[(pointOf nl s off).2]? = some x) ?_ ?_ ?_ s
  · intro off x hx
    cases hx
  · intro r hd tl ih off x hx hne
    cases off with
    | zero => exact absurd (Option.some.inj hx).symm hne
    | succ off =>
      rw [pointOf_cons_nl]
      exact ih off x hx hne
  · intro c r hd tl hc ih off x hx hne
    cases off with
    | zero =>
      rw [pointOf_zero]
      exact ⟨c :: hd, rfl, hx⟩
    | succ off =>
      obtain ⟨line, hline, hcol⟩ := ih off x hx hne
      rw [pointOf_cons_ne hc]
      split
      · next hrow =>
        rw [hrow] at hline
        cases hline
        exact ⟨c :: hd, rfl, hcol⟩
      · next hrow =>
        rw [List.getElem?_cons, if_neg hrow] at hline ⊢
        exact ⟨line, hline, hcol⟩

/-- **1 ≤ line ≤ number of lines, column inside the line** — for every text (with or without final
    newline, any line endings) and every node that starts on a character -/
theorem reported_valid (nl : α) (s : List α) (off : Nat) (x : α) (hx : s[off]? = some x) (hne : x ≠ nl) :
    1 ≤ (reported nl s off).1 ∧ (reported nl s off).1 ≤ lineCount nl s ∧
    ∃ line, (splitOn nl s)[(reported nl s off).1 - 1]? = some line ∧ (reported nl s off).2 < line.length ∧ line[(reported nl s off).2]? = some x := by
  obtain ⟨line, hline, hchar⟩ := point_char nl s off x hx hne
  have hrow := point_row_lt nl s off
  have hcol : (pointOf nl s off).2 < line.length := (List.getElem?_eq_some_iff.mp hchar).1
  refine ⟨Nat.le_add_left 1 _, ?_, line, hline, hcol, hchar⟩
  unfold lineCount
  split
  · next hlast =>
    -- the last line is empty, the node's line is not: it is not the last one
    have hne' : (pointOf nl s off).1 ≠ (splitOn nl s).length - 1 := by
      intro heq
      rw [heq, ← List.getLast?_eq_getElem?, hlast] at hline
      cases hline
      exact Nat.not_lt_zero _ hcol
    exact Nat.lt_of_le_of_ne (Nat.le_sub_one_of_lt hrow) hne'
  · exact hrow

/-- positions and offsets determine each other -/
theorem offset_of_point (nl : α) (s : List α) : ∀ off, off ≤ s.length →
    offsetOf nl s (pointOf nl s off).1 (pointOf nl s off).2 = off := by
  induction s with
  | nil =>
    intro off h
    obtain rfl : off = 0 := Nat.le_zero.mp h
    rfl
  | cons c r ih =>
    intro off h
    cases off with
    | zero => rfl
    | succ off =>
      have ih := ih off (Nat.le_of_succ_le_succ h)
      by_cases hc : c = nl
      · subst hc
        rw [pointOf_cons_nl, offsetOf, if_pos rfl, ih, Nat.add_comm]
      · rw [pointOf_cons_ne hc]
        split
        · next hrow =>
          rw [hrow, offsetOf_zero] at ih
          rw [offsetOf_zero, ih]
        · next hrow =>
          obtain ⟨k, hk⟩ := Nat.exists_eq_succ_of_ne_zero hrow
          rw [hk] at ih ⊢
          rw [offsetOf, if_neg hc, ih, Nat.add_comm]

/-- `"\n".join(lines)` -/
def joinOn (nl : α) : List (List α) → List α
  | [] => []
  | [l] => l
  | l :: rest => l ++ nl :: joinOn nl rest

/-- **Splitting into lines loses nothing**: joining the lines with the newline symbol gives the text back
    (so every character of the file lies on exactly one line, whatever the line endings) -/
theorem join_split (nl : α) (s : List α) : joinOn nl (splitOn nl s) = s := by
  refine splitOn_induction nl (motive := fun s ls => joinOn nl ls = s) rfl ?_ ?_ s
  · intro r hd tl ih
    exact congrArg (nl :: ·) ih
  · intro c r hd tl _ ih
    cases tl <;> exact congrArg (c :: ·) ih

/-- no line contains the newline symbol -/
theorem split_lines_clean (nl : α) (s : List α) : ∀ l ∈ splitOn nl s, nl ∉ l := by
  refine splitOn_induction nl (motive := fun _ ls => ∀ l ∈ ls, nl ∉ l) ?_ ?_ ?_ s
  · exact List.forall_mem_cons.mpr ⟨List.not_mem_nil, fun _ h => nomatch h⟩
  · intro r hd tl ih
    exact List.forall_mem_cons.mpr ⟨List.not_mem_nil, ih⟩
  · intro c r hd tl hc ih
    obtain ⟨hhd, htl⟩ := List.forall_mem_cons.mp ih
    exact List.forall_mem_cons.mpr ⟨fun hmem => (List.mem_cons.mp hmem).elim (fun e => hc e.symm) hhd, htl⟩

/-! ## DRY line tracking -/

theorem tokenize_valid {σ : Type} (step : σ → List α → σ × Option (List α)) (skip : Nat → Bool) (lines : List (List α)) :
    ∀ (st : σ) (n0 : Nat) (n : Nat) (t : List α), (n, t) ∈ tokenizeFrom step skip st n0 lines →
      n0 ≤ n ∧ n < n0 + lines.length ∧ skip n = false ∧ ∃ st' l, lines[n - n0]? = some l ∧ (step st' l).2 = some t := by
  induction lines with
  | nil =>
    intro st n0 n t h
    cases h
  | cons l rest ih =>
    intro st n0 n t h
    rw [tokenizeFrom_cons, List.mem_append, Option.mem_toList, Option.map_eq_some_iff] at h
    rcases h with ⟨t', ht', heq⟩ | h
    · obtain ⟨hs, hstep⟩ := Option.ite_none_left_eq_some.mp ht'
      cases heq
      exact ⟨Nat.le_refl _, Nat.lt_add_of_pos_right (Nat.zero_lt_succ _), Bool.eq_false_iff.mpr hs, st, l,
        by rw [Nat.sub_self, List.getElem?_cons_zero], hstep⟩
    · obtain ⟨h1, h2, h3, st', l', hl, hstep⟩ := ih _ (n0 + 1) n t h
      refine ⟨Nat.le_of_succ_le h1, ?_, h3, st', l', ?_, hstep⟩
      · rw [List.length_cons, Nat.add_comm rest.length 1, ← Nat.add_assoc]
        exact h2
      · rw [List.getElem?_cons, if_neg (Nat.sub_ne_zero_of_lt h1), Nat.sub_sub]
        exact hl

/-- the tracked numbers are strictly increasing: no line is counted twice, order is kept -/
theorem tokenize_increasing {σ : Type} (step : σ → List α → σ × Option (List α)) (skip : Nat → Bool) (lines : List (List α)) :
    ∀ (st : σ) (n0 : Nat), ((tokenizeFrom step skip st n0 lines).map (·.1)).Pairwise (· < ·) := by
  induction lines with
  | nil =>
    intro st n0
    exact List.Pairwise.nil
  | cons l rest ih =>
    intro st n0
    rw [tokenizeFrom_cons]
    cases (if skip n0 = true then none else (step st l).2) with
    | none => exact ih _ _
    | some t =>
      refine List.pairwise_cons.mpr ⟨?_, ih _ _⟩
      intro m hm
      obtain ⟨⟨m', t'⟩, hmem, rfl⟩ := List.mem_map.mp hm
      exact (tokenize_valid step skip rest _ (n0 + 1) m' t' hmem).1

/-- **A duplicate-code block is reported at its first line**: every window starts at the original number
    of its first kept line, ends at the original number of its last kept line, and its snippet is the
    normalised text of exactly those `k` consecutive kept lines -/
theorem windows_spec (k : Nat) (tr : List (Nat × List α)) :
    ∀ w ∈ windows k tr, ∃ i x y, tr[i]? = some x ∧ tr[i + k - 1]? = some y ∧ w.start = x.1 ∧ w.stop = y.1 ∧
      w.snippet = ((tr.drop i).take k).map (·.2) ∧ w.snippet.length = k ∧ 0 < k := by
  intro w hw
  obtain ⟨i, x, rest, y, hdrop, hk, hy, rfl⟩ := mem_windows hw
  refine ⟨i, x, y, ?_, ?_, rfl, rfl, ?_, ?_, hk⟩
  · rw [← List.head?_drop, hdrop]
    rfl
  · rw [Nat.add_sub_assoc hk, ← List.getElem?_drop, hdrop]
    exact hy
  · rw [hdrop]
  · have hle : k ≤ (x :: rest).length := Nat.le_of_pred_lt (List.getElem?_eq_some_iff.mp hy).1
    rw [List.length_map, List.length_take_of_le hle]

/-- consequence for the reported line of a DRY violation: it is a line of the file that survived the
    removal of docstrings, comments, blanks and imports, and it opens the reported snippet -/
theorem dry_start_is_first_kept_line {σ : Type} (step : σ → List α → σ × Option (List α)) (skip : Nat → Bool) (init : σ)
    (lines : List (List α)) (k : Nat) (w : Window α) (hw : w ∈ windows k (tokenize step skip init lines)) :
    1 ≤ w.start ∧ w.start ≤ w.stop ∧ w.stop ≤ lines.length ∧ skip w.start = false ∧
    ∃ st' l, lines[w.start - 1]? = some l ∧ (step st' l).2 = w.snippet.head? := by
  obtain ⟨i, x, rest, y, hdrop, hk, hy, rfl⟩ := mem_windows hw
  have hsub : (x :: rest).Sublist (tokenizeFrom step skip init 1 lines) := hdrop ▸ List.drop_sublist i _
  have hymem : y ∈ x :: rest := List.mem_of_getElem? hy
  obtain ⟨a1, _, a3, st', l, a4, a5⟩ := tokenize_valid step skip lines init 1 x.1 x.2 (hsub.subset List.mem_cons_self)
  obtain ⟨_, b2, _⟩ := tokenize_valid step skip lines init 1 y.1 y.2 (hsub.subset hymem)
  have hinc := (tokenize_increasing step skip lines init 1).sublist (hsub.map _)
  have hle : x.1 ≤ y.1 := by
    rcases List.mem_cons.mp hymem with rfl | hy'
    · exact Nat.le_refl _
    · exact Nat.le_of_lt ((List.pairwise_cons.mp hinc).1 _ (List.mem_map_of_mem hy'))
  refine ⟨a1, hle, Nat.lt_one_add_iff.mp b2, a3, st', l, a4, ?_⟩
  rw [a5]
  cases k with
  | zero => exact absurd hk (Nat.lt_irrefl 0)
  | succ k => rfl

/-! ## Non-vacuity (tests on concrete texts, labelled as such) -/

example : reported 10 [97, 98, 10, 99, 100] 3 = (2, 0) ∧ lineCount 10 [97, 98, 10, 99, 100] = 2 ∧ lineCount 10 [97, 98, 10] = 1 ∧
    lineCount 10 ([] : List Nat) = 0 ∧ reported 10 [97, 13, 10, 13, 10, 98] 5 = (3, 0) := by decide +kernel
example : (windows 2 (tokenize (fun (st : Unit) (l : List Nat) => (st, if l.isEmpty then none else some l)) (fun n => n == 2) () [[1], [2], [], [3], [4]])).map
    (fun w => (w.start, w.stop)) = [(1, 4), (4, 5)] := by decide +kernel

theorem splitRaw_ne_nil : (t : List Char) → splitRaw t ≠ [] := by
  intro t
  fun_cases splitRaw t <;> exact List.cons_ne_nil _ _

/-- without carriage returns the lines are exactly the `\n`-separated pieces the coordinate model counts rows by -/
theorem splitRaw_no_cr : (t : List Char) → '\r' ∉ t → splitRaw t = splitOn '\n' t
  | t => by
    refine splitOn_induction '\n' (motive := fun t ls => '\r' ∉ t → splitRaw t = ls) (fun _ => rfl) ?_ ?_ t
    · intro r hd tl ih h
      rw [splitRaw, ih (fun m => h (List.mem_cons_of_mem _ m))]
    · intro c r hd tl hc ih h
      rw [splitRaw_cons_other c r hc (fun e => h (e ▸ List.mem_cons_self)), ih (fun m => h (List.mem_cons_of_mem _ m))]

/-- **a character that is not a line end never changes the number of lines, wherever it is inserted** (form feed, vertical
    tab, NEL, LINE SEPARATOR … are such characters for every consumer but `str.splitlines`) -/
theorem insert_keeps_line_count (nl c : α) (h : c ≠ nl) : (a b : List α) →
    (splitOn nl (a ++ c :: b)).length = (splitOn nl (a ++ b)).length
  | a, b => by
    rw [split_length, split_length, List.count_append, List.count_append, List.count_cons_of_ne h]

example : splitLines "a\x0cb\nc d\r\ne\x85f\rg\n".toList = ["a\x0cb".toList, "c d".toList, "e\x85f".toList, "g".toList] := by decide +kernel

end ThaiLintModel.C12
