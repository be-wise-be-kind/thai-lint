/-
C13 — what `shift`, `cutAt` and `words` do on each form of input, and how the two text functions treat
white space in front of and behind a line.
-/
import ThaiLintModel.C13.Model
namespace ThaiLintModel.C13

theorem shift_below (pos n : Nat) (h : n < pos) : shift pos n = n :=
  if_neg (Nat.not_le_of_lt h)

theorem shift_at_or_above (pos n : Nat) (h : pos ≤ n) : shift pos n = n + 1 :=
  if_pos h

theorem shift_bounds (pos n : Nat) : n ≤ shift pos n ∧ shift pos n ≤ n + 1 := by
  unfold shift
  split <;> omega

/-- a line further down is moved at least as far -/
theorem shift_displacement_mono (pos : Nat) {a b : Nat} (h : a ≤ b) : shift pos a + b ≤ shift pos b + a := by
  by_cases ha : pos ≤ a
  · rw [shift_at_or_above pos a ha, shift_at_or_above pos b (Nat.le_trans ha h)]
    omega
  · rw [shift_below pos a (Nat.lt_of_not_le ha), Nat.add_comm a b]
    exact Nat.add_le_add_right (shift_bounds pos b).1 a

theorem cutAt_of_prefix {pat : Str} {c : Char} {r : Str} (h : pat.isPrefixOf (c :: r) = true) : cutAt pat (c :: r) = [] := by
  rw [cutAt, if_pos h]

theorem cutAt_cons_of_not_prefix {pat : Str} {c : Char} {r : Str} (h : pat.isPrefixOf (c :: r) = false) :
    cutAt pat (c :: r) = c :: cutAt pat r := by
  rw [cutAt, if_neg (Bool.eq_false_iff.mp h)]

/-- a pattern of non-space characters does not start at a white-space character -/
theorem not_isPrefixOf_ws_cons {p : Char → Bool} {pat : Str} (hp : ∀ c ∈ pat, p c = false) (hne : pat ≠ [])
    {w : Char} (hw : p w = true) (r : Str) : pat.isPrefixOf (w :: r) = false := by
  cases pat with
  | nil => exact absurd rfl hne
  | cons q pat =>
    have hqw : q ≠ w := fun e => Bool.false_ne_true ((hp q List.mem_cons_self).symm.trans (e ▸ hw))
    rw [List.isPrefixOf_cons_cons, beq_false_of_ne hqw, Bool.false_and]

/-- … nor does it reach into white space behind the line -/
theorem isPrefixOf_append_ws {p : Char → Bool} {ws : Str} (hws : ∀ c ∈ ws, p c = true) :
    ∀ (pat l : Str), (∀ c ∈ pat, p c = false) → pat.isPrefixOf (l ++ ws) = pat.isPrefixOf l
  | [], _, _ => by
    rw [List.isPrefixOf_nil_left, List.isPrefixOf_nil_left]
  | q :: pat, [], hp => by
    cases ws with
    | nil => rfl
    | cons w wr => exact not_isPrefixOf_ws_cons hp (List.cons_ne_nil _ _) (hws w List.mem_cons_self) wr
  | q :: pat, c :: r, hp => by
    rw [List.cons_append, List.isPrefixOf_cons_cons, List.isPrefixOf_cons_cons,
      isPrefixOf_append_ws hws pat r (List.forall_mem_cons.mp hp).2]

theorem cutAt_leading_ws {p : Char → Bool} {pat ws : Str} (hws : ∀ c ∈ ws, p c = true) (hp : ∀ c ∈ pat, p c = false)
    (hne : pat ≠ []) (l : Str) : cutAt pat (ws ++ l) = ws ++ cutAt pat l := by
  induction ws with
  | nil => rfl
  | cons w wr ih =>
    obtain ⟨hw, hwr⟩ := List.forall_mem_cons.mp hws
    rw [List.cons_append, cutAt_cons_of_not_prefix (not_isPrefixOf_ws_cons hp hne hw _), ih hwr, List.cons_append]

/-- white space behind the line stays behind what is cut (or goes with the comment) -/
theorem cutAt_append_ws {p : Char → Bool} {pat ws : Str} (hws : ∀ c ∈ ws, p c = true) (hp : ∀ c ∈ pat, p c = false)
    (hne : pat ≠ []) (l : Str) : ∃ ws', (∀ c ∈ ws', p c = true) ∧ cutAt pat (l ++ ws) = cutAt pat l ++ ws' := by
  induction l with
  | nil => exact ⟨ws, hws, by simpa [cutAt] using cutAt_leading_ws hws hp hne []⟩
  | cons c r ih =>
    obtain ⟨ws', hws', hcut⟩ := ih
    have hpre : pat.isPrefixOf (c :: (r ++ ws)) = pat.isPrefixOf (c :: r) := isPrefixOf_append_ws hws pat (c :: r) hp
    rw [List.cons_append]
    cases h : pat.isPrefixOf (c :: r) with
    | true =>
      rw [cutAt_of_prefix h, cutAt_of_prefix (hpre.trans h)]
      exact ⟨[], fun _ hc => absurd hc List.not_mem_nil, rfl⟩
    | false =>
      rw [cutAt_cons_of_not_prefix h, cutAt_cons_of_not_prefix (hpre.trans h), hcut]
      exact ⟨ws', hws', rfl⟩

/-- a white-space character closes the current word -/
theorem words_cons_space {c : Char} (hc : isPySpace c = true) (r cur : Str) :
    words (c :: r) cur = words [] cur ++ words r [] := by
  simp only [words, hc, if_true]
  split <;> rfl

theorem words_cons_other {c : Char} (hc : isPySpace c = false) (r cur : Str) : words (c :: r) cur = words r (c :: cur) := by
  rw [words, if_neg (Bool.eq_false_iff.mp hc)]

theorem words_ws {ws : Str} (hws : ∀ c ∈ ws, isPySpace c = true) (cur : Str) : words ws cur = words [] cur := by
  induction ws generalizing cur with
  | nil => rfl
  | cons w wr ih =>
    obtain ⟨hw, hwr⟩ := List.forall_mem_cons.mp hws
    rw [words_cons_space hw, ih hwr []]
    exact List.append_nil _

theorem words_trailing_ws {ws : Str} (hws : ∀ c ∈ ws, isPySpace c = true) : ∀ (l cur : Str), words (l ++ ws) cur = words l cur
  | [], cur => words_ws hws cur
  | c :: r, cur => by
    rw [List.cons_append]
    cases hc : isPySpace c with
    | true => rw [words_cons_space hc, words_cons_space hc, words_trailing_ws hws r []]
    | false => rw [words_cons_other hc, words_cons_other hc, words_trailing_ws hws r (c :: cur)]

theorem words_leading_ws {ws : Str} (hws : ∀ c ∈ ws, isPySpace c = true) (l : Str) : words (ws ++ l) [] = words l [] := by
  induction ws with
  | nil => rfl
  | cons w wr ih =>
    obtain ⟨hw, hwr⟩ := List.forall_mem_cons.mp hws
    rw [List.cons_append, words_cons_space hw, ih hwr]
    rfl

end ThaiLintModel.C13
