import ThaiLintModel.C12.Props
import ThaiLintModel.C13.Lemmas
namespace ThaiLintModel.C13
open ThaiLintModel.C12

/-! ## Line tracking under an inserted blank / comment line -/

theorem tokenize_shift_all {σ : Type} (step : σ → Line → σ × Option Line) (skip skip' : Nat → Bool) (lines : List Line) :
    ∀ (st : σ) (n0 : Nat), (∀ m, n0 ≤ m → skip' (m + 1) = skip m) →
      tokenizeFrom step skip' st (n0 + 1) lines = (tokenizeFrom step skip st n0 lines).map (fun t => (t.1 + 1, t.2)) := by
  induction lines with
  | nil =>
    intro st n0 _
    rfl
  | cons l rest ih =>
    intro st n0 h
    rw [tokenizeFrom_cons, tokenizeFrom_cons, h n0 (Nat.le_refl _), List.map_append,
      ih _ (n0 + 1) (fun m hm => h m (Nat.le_of_succ_le hm))]
    congr 1
    cases (if skip n0 = true then none else (step st l).2) <;> rfl

/-- **Inserting a line that the tokenizer drops (blank or comment-only) moves every tracked line below it
    down by one and changes nothing else** — for every stateful normaliser, every docstring set -/
theorem tokenize_insert {σ : Type} (step : σ → Line → σ × Option Line) (skip skip' : Nat → Bool) (x : Line)
    (hx : ∀ st, step st x = (st, none)) (post : List Line) :
    ∀ (pre : List Line) (st : σ) (n0 : Nat),
      (∀ m, m < n0 + pre.length → skip' m = skip m) → (∀ m, n0 + pre.length ≤ m → skip' (m + 1) = skip m) →
      tokenizeFrom step skip' st n0 (pre ++ x :: post) =
        (tokenizeFrom step skip st n0 (pre ++ post)).map (fun t => (shift (n0 + pre.length) t.1, t.2)) := by
  intro pre st n0
  -- the insertion position stays where it is while the induction moves `n0` along `pre`
  generalize hpos : n0 + pre.length = pos
  intro h1 h2
  induction pre generalizing st n0 with
  | nil =>
    -- `x` yields no token and leaves the state alone, skipped or not; every line behind it is at or below the insertion
    obtain rfl : n0 = pos := hpos
    rw [List.nil_append, List.nil_append, tokenizeFrom_cons, hx st, ite_self, ite_self,
      Option.map_none, Option.toList_none, List.nil_append, tokenize_shift_all step skip skip' post st n0 h2]
    apply List.map_congr_left
    intro t ht
    rw [shift_at_or_above _ _ (tokenize_valid step skip post st n0 t.1 t.2 ht).1]
  | cons l pre ih =>
    rw [List.length_cons] at hpos
    rw [List.cons_append, List.cons_append, tokenizeFrom_cons, tokenizeFrom_cons, h1 n0 (by omega), List.map_append,
      ih _ (n0 + 1) (by omega)]
    congr 1
    cases (if skip n0 = true then none else (step st l).2) with
    | none => rfl
    | some t => exact congrArg (fun n => [(n, t)]) (shift_below _ _ (by omega)).symm

/-- windows commute with any renumbering of lines: same snippets, renumbered ends -/
theorem windows_renumber (f : Nat → Nat) (k : Nat) (tr : List (Nat × Line)) :
    windows k (tr.map fun t => (f t.1, t.2)) = (windows k tr).map fun w => ⟨f w.start, f w.stop, w.snippet⟩ := by
  induction tr with
  | nil => rfl
  | cons x rest ih =>
    rw [List.map_cons, windows, windows]
    -- the first `k` renumbered tokens are the first `k` tokens, renumbered
    simp only [← List.map_cons (f := fun t : Nat × Line => (f t.1, t.2)), ← List.map_take, List.length_map]
    split
    · rw [List.map_cons, ih, List.getLast?_map, List.map_map]
      cases ((x :: rest).take k).getLast? <;> rfl
    · rfl

/-- **DRY sees the same duplicate candidates after a blank / comment line is inserted**: same snippets,
    start and end moved by the line shift -/
theorem dry_windows_insert {σ : Type} (step : σ → Line → σ × Option Line) (skip skip' : Nat → Bool) (init : σ) (k : Nat) (x : Line)
    (hx : ∀ st, step st x = (st, none)) (pre post : List Line)
    (h1 : ∀ m, m < 1 + pre.length → skip' m = skip m) (h2 : ∀ m, 1 + pre.length ≤ m → skip' (m + 1) = skip m) :
    windows k (tokenize step skip' init (pre ++ x :: post)) =
      (windows k (tokenize step skip init (pre ++ post))).map fun w => ⟨shift (1 + pre.length) w.start, shift (1 + pre.length) w.stop, w.snippet⟩ := by
  unfold tokenize
  rw [tokenize_insert step skip skip' x hx post pre init 1 h1 h2, windows_renumber]

/-! ## `count_loc` does not see layout -/

theorem countLoc_insert (marker : Str) (lines : List Line) (pos : Nat) (x : Line) (hx : isCodeLine marker x = false) :
    countLoc marker (insertAt lines pos x) = countLoc marker lines := by
  unfold countLoc insertAt
  rw [List.filter_append, List.filter_cons_of_neg (Bool.eq_false_iff.mp hx), ← List.filter_append, List.take_append_drop]

/-- any edit that leaves every line's stripped text alone (trailing white space, CR line ends,
    consistent re-indentation) leaves the size alone -/
theorem countLoc_layout (marker : Str) (lines : List Line) (f : Line → Line) (hf : ∀ l, strip (f l) = strip l) :
    countLoc marker (lines.map f) = countLoc marker lines := by
  unfold countLoc
  rw [List.filter_map, List.length_map]
  congr 1
  apply List.filter_congr
  intro l _
  exact congrArg (fun s => !s.isEmpty && !marker.isPrefixOf s) (hf l)

theorem strip_leading_ws (ws l : Str) (h : ∀ c ∈ ws, isPySpace c = true) : strip (ws ++ l) = strip l := by
  unfold strip lstrip
  rw [List.dropWhile_append_of_pos h]

theorem lstrip_ws {ws : Str} (h : ∀ c ∈ ws, isPySpace c = true) : lstrip ws = [] := by
  rw [← List.append_nil ws, lstrip, List.dropWhile_append_of_pos h]
  rfl

theorem strip_trailing_ws (l ws : Str) (h : ∀ c ∈ ws, isPySpace c = true) : strip (l ++ ws) = strip l := by
  unfold strip
  rw [lstrip, List.dropWhile_append]
  split
  · next hblank =>
    -- a blank line: `lstrip` leaves nothing of it, nor of the white space behind it
    rw [lstrip, List.isEmpty_iff.mp hblank, show ws.dropWhile isPySpace = [] from lstrip_ws h]
  · rw [List.reverse_append, List.dropWhile_append_of_pos (fun c hc => h c (List.mem_reverse.mp hc))]
    rfl

/-- trailing white space, a CR before the line feed, and leading indentation are invisible to `count_loc` -/
theorem countLoc_trailing_ws (marker : Str) (lines : List Line) (ws : Line → Str) (h : ∀ l, ∀ c ∈ ws l, isPySpace c = true) :
    countLoc marker (lines.map fun l => l ++ ws l) = countLoc marker lines :=
  countLoc_layout marker lines _ (fun l => strip_trailing_ws l (ws l) (h l))

theorem countLoc_reindent (marker : Str) (lines : List Line) (ind : Line → Str) (h : ∀ l, ∀ c ∈ ind l, isPySpace c = true) :
    countLoc marker (lines.map fun l => ind l ++ l) = countLoc marker lines :=
  countLoc_layout marker lines _ (fun l => strip_leading_ws (ind l) l (h l))

theorem blank_is_not_code (marker ws : Str) (h : ∀ c ∈ ws, isPySpace c = true) : isCodeLine marker ws = false := by
  rw [isCodeLine, strip, lstrip_ws h]
  rfl

/-! ## The line shift of violations -/

/-- the old line's text is found at the shifted position of the new file -/
theorem insertAt_get (lines : List Line) (pos n : Nat) (x : Line) (hpos : 1 ≤ pos) (hp : pos ≤ lines.length + 1) (hn : 1 ≤ n) :
    (insertAt lines pos x)[shift pos n - 1]? = lines[n - 1]? := by
  -- 0-based: the new line goes to index `i`, the old line sits at index `m`
  obtain ⟨i, rfl⟩ : ∃ i, pos = i + 1 := ⟨pos - 1, (Nat.sub_add_cancel hpos).symm⟩
  obtain ⟨m, rfl⟩ : ∃ m, n = m + 1 := ⟨n - 1, (Nat.sub_add_cancel hn).symm⟩
  have hlen : (lines.take i).length = i := List.length_take_of_le (Nat.le_of_succ_le_succ hp)
  rw [insertAt, Nat.add_sub_cancel, Nat.add_sub_cancel]
  by_cases h : i ≤ m
  · rw [shift_at_or_above _ _ (Nat.add_le_add_right h 1), Nat.add_sub_cancel, List.getElem?_append_right (by omega),
      hlen, Nat.succ_sub h, List.getElem?_cons_succ, List.getElem?_drop, Nat.add_sub_cancel' h]
  · have hlt : m < i := Nat.lt_of_not_le h
    rw [shift_below _ _ (Nat.add_lt_add_right hlt 1), Nat.add_sub_cancel, List.getElem?_append_left (by omega),
      List.getElem?_take_of_lt hlt]

/-- several insertions move a line by exactly the number of lines inserted at or above it -/
theorem shiftMany_ge (ps : List Nat) (n : Nat) : n ≤ shiftMany ps n ∧ shiftMany ps n ≤ n + ps.length := by
  induction ps generalizing n with
  | nil => exact ⟨Nat.le_refl n, Nat.le_refl n⟩
  | cons p ps ih =>
    have hstep := shift_bounds p n
    have hrest := ih (shift p n)
    rw [shiftMany, List.length_cons]
    omega

/-- a line further down is moved at least as far, by one insertion and so by any sequence of them -/
theorem shiftMany_displacement_mono (ps : List Nat) {a b : Nat} (h : a ≤ b) : shiftMany ps a + b ≤ shiftMany ps b + a := by
  induction ps generalizing a b with
  | nil => exact Nat.le_of_eq (Nat.add_comm a b)
  | cons p ps ih =>
    have hstep := shift_displacement_mono p h
    have hrest := ih (a := shift p a) (b := shift p b) (by omega)
    rw [shiftMany, shiftMany]
    omega

/-- one insertion keeps the order of the old lines: two findings never swap places or land on one line -/
theorem shift_strictMono (pos a b : Nat) (h : a < b) : shift pos a < shift pos b := by
  have := shift_displacement_mono pos (Nat.le_of_lt h)
  omega

/-- … and so does any sequence of insertions -/
theorem shiftMany_strictMono (ps : List Nat) (a b : Nat) (h : a < b) : shiftMany ps a < shiftMany ps b := by
  have := shiftMany_displacement_mono ps (Nat.le_of_lt h)
  omega

/-- distinct lines stay distinct: the renumbering never merges two findings -/
theorem shiftMany_injective (ps : List Nat) (a b : Nat) (h : shiftMany ps a = shiftMany ps b) : a = b := by
  rcases Nat.lt_trichotomy a b with hlt | heq | hgt
  · have := shiftMany_strictMono ps a b hlt
    omega
  · exact heq
  · have := shiftMany_strictMono ps b a hgt
    omega

/-- insertions applied in two batches renumber like one batch -/
theorem shiftMany_append (ps qs : List Nat) (n : Nat) : shiftMany (ps ++ qs) n = shiftMany qs (shiftMany ps n) := by
  induction ps generalizing n with
  | nil => rfl
  | cons p ps ih => exact ih (shift p n)

/-- the distance between two findings never shrinks and grows by at most the number of inserted lines -/
theorem shiftMany_distance (ps : List Nat) (a b : Nat) (h : a ≤ b) :
    b - a ≤ shiftMany ps b - shiftMany ps a ∧ shiftMany ps b - shiftMany ps a ≤ b - a + ps.length := by
  have hmono := shiftMany_displacement_mono ps h
  have ha := shiftMany_ge ps a
  have hb := shiftMany_ge ps b
  omega

/-! ## `normalize_line` does not see layout -/

theorem hash_not_space : ∀ c ∈ ['#'], isPySpace c = false := by decide

theorem slashes_not_space : ∀ c ∈ ['/', '/'], isPySpace c = false := by decide

/-- **`normalize_line` is blind to trailing white space** (also a CR before the line feed) -/
theorem normalize_trailing_ws (l ws : Str) (hws : ∀ c ∈ ws, isPySpace c = true) : normalizeLine (l ++ ws) = normalizeLine l := by
  unfold normalizeLine stripComments
  obtain ⟨w1, h1, e1⟩ := cutAt_append_ws hws hash_not_space (List.cons_ne_nil _ _) l
  obtain ⟨w2, h2, e2⟩ := cutAt_append_ws h1 slashes_not_space (List.cons_ne_nil _ _) (cutAt ['#'] l)
  rw [e1, e2, words_trailing_ws h2]

/-- **… and to indentation** -/
theorem normalize_leading_ws (ws l : Str) (hws : ∀ c ∈ ws, isPySpace c = true) : normalizeLine (ws ++ l) = normalizeLine l := by
  unfold normalizeLine stripComments
  rw [cutAt_leading_ws hws hash_not_space (List.cons_ne_nil _ _), cutAt_leading_ws hws slashes_not_space (List.cons_ne_nil _ _),
    words_leading_ws hws]

/-- so a blank line, and a line that holds only a comment, are noise for DRY's tokenizer wherever they are indented -/
theorem blank_is_noise (ws : Str) (hws : ∀ c ∈ ws, isPySpace c = true) : isNoise ws = true := by
  rw [← List.append_nil ws, isNoise, normalize_leading_ws ws [] hws]
  rfl

theorem comment_is_noise (ws rest : Str) (hws : ∀ c ∈ ws, isPySpace c = true) : isNoise (ws ++ '#' :: rest) = true ∧ isNoise (ws ++ '/' :: '/' :: rest) = true := by
  -- behind the indentation the marker is a prefix of what is left, so `cutAt` leaves nothing; `#` is looked for first and is not in `//`
  have hslash : ∀ r : Str, ['#'].isPrefixOf ('/' :: r) = false := fun _ => rfl
  constructor
  · rw [isNoise, normalize_leading_ws ws _ hws, normalizeLine, stripComments, cutAt_of_prefix (pat := ['#']) rfl]
    rfl
  · rw [isNoise, normalize_leading_ws ws _ hws, normalizeLine, stripComments, cutAt_cons_of_not_prefix (hslash _),
      cutAt_cons_of_not_prefix (hslash _), cutAt_of_prefix (pat := ['/', '/']) rfl]
    rfl

/-! ## Non-vacuity (tests, labelled as such) -/

example : normalizeLine "    total  =  a +\tb   # sum ".toList = "total = a + b".toList ∧ isNoise "   // note".toList = true ∧ isNoise "\t \r".toList = true ∧
    countLoc "#".toList ["class A:".toList, "".toList, "    # c".toList, "    x = 1\r".toList] = 2 ∧
    shiftMany [3, 1, 10] 3 = 5 := by decide +kernel

end ThaiLintModel.C13
