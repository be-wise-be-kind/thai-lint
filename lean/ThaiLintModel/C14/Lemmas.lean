/-
C14 — what the functions of the model do on each form of input: lists cut at `/`, `joinPath`, the pattern matcher.
-/
import ThaiLintModel.C14.Model
import ThaiLintModel.Core.GlobLemmas
namespace ThaiLintModel.C14
open ThaiLintModel

/-! ## Lists, and lists cut at `/` -/

theorem getLast?_ne_of_notMem {α : Type} {c : α} {l : List α} (h : c ∉ l) : l.getLast? ≠ some c :=
  fun hl => h (List.mem_of_getLast? hl)

theorem getLast?_append_of_ne_nil {α : Type} (l : List α) {l' : List α} (h : l' ≠ []) :
    (l ++ l').getLast? = l'.getLast? := by
  rw [List.getLast?_append, List.getLast?_eq_some_getLast h, Option.some_or]

theorem exists_concat_of_ne_nil {α : Type} {l : List α} (h : l ≠ []) : ∃ d m, l = d ++ [m] :=
  ⟨_, _, (List.dropLast_concat_getLast h).symm⟩

/-- what stands before the first `/` -/
theorem takeWhile_append_sep {a : List Char} (ha : '/' ∉ a) (x : List Char) :
    (a ++ '/' :: x).takeWhile (· != '/') = a := by
  have hall : ∀ c ∈ a, (c != '/') = true := by
    intro c hc
    rw [bne_iff_ne]
    intro h
    exact ha (h ▸ hc)
  rw [List.takeWhile_append_of_pos hall, List.takeWhile_cons_of_neg (by simp), List.append_nil]

theorem prefix_sep {a b x y : List Char} (ha : '/' ∉ a) (hb : '/' ∉ b) :
    (a ++ '/' :: x) <+: (b ++ '/' :: y) ↔ a = b ∧ x <+: y := by
  constructor
  · rintro ⟨t, ht⟩
    rw [List.append_assoc, List.cons_append] at ht
    have hab : a = b := by
      rw [← takeWhile_append_sep ha (x ++ t), ht, takeWhile_append_sep hb y]
    subst hab
    exact ⟨rfl, t, (List.cons.inj (List.append_cancel_left ht)).2⟩
  · rintro ⟨rfl, t, rfl⟩
    exact ⟨t, by simp⟩

theorem suffix_append_sep {e x n : List Char} (he : '/' ∉ e) : e <:+ x ++ '/' :: n ↔ e <:+ n := by
  constructor
  · intro h
    -- `e` and `/n` both end the string, and `e`, free of `/`, is the shorter one
    rcases List.suffix_or_suffix_of_suffix h (List.suffix_append x ('/' :: n)) with h1 | h1
    · rcases List.suffix_cons_iff.1 h1 with rfl | h2
      · exact absurd List.mem_cons_self he
      · exact h2
    · exact absurd (h1.subset List.mem_cons_self) he
  · intro h
    exact h.trans ((List.suffix_cons '/' n).trans (List.suffix_append x _))

/-- `prefix_sep` read from the end -/
theorem sep_suffix_append_sep {n m x : List Char} (hn : '/' ∉ n) (hm : '/' ∉ m) :
    '/' :: n <:+ x ++ '/' :: m ↔ n = m := by
  rw [← List.reverse_prefix, List.reverse_cons, List.reverse_append, List.reverse_cons, List.append_assoc,
    List.singleton_append, prefix_sep (mt List.mem_reverse.1 hn) (mt List.mem_reverse.1 hm), List.reverse_inj]
  exact and_iff_left List.nil_prefix

/-! ## `joinPath` -/

theorem joinPath_cons (a : Name) {r : Path} (hr : r ≠ []) : joinPath (a :: r) = a ++ '/' :: joinPath r := by
  cases r with
  | nil => exact absurd rfl hr
  | cons b r => rfl

theorem joinPath_concat (d : Path) (m : Name) : joinPath (d ++ [m]) = d.flatMap (· ++ ['/']) ++ m := by
  induction d with
  | nil => rfl
  | cons a d ih =>
    rw [List.cons_append, joinPath_cons a (List.concat_ne_nil m d), ih, List.flatMap_cons, List.append_assoc,
      List.append_assoc, List.singleton_append]

theorem joinPath_append_slash {q : Path} (hq : q ≠ []) : joinPath q ++ ['/'] = q.flatMap (· ++ ['/']) := by
  rw [← List.dropLast_concat_getLast hq, joinPath_concat, List.flatMap_append, List.flatMap_singleton,
    List.append_assoc]

theorem joinPath_concat_of_ne_nil {d : Path} (hd : d ≠ []) (m : Name) :
    joinPath (d ++ [m]) = joinPath d ++ '/' :: m := by
  rw [joinPath_concat, ← joinPath_append_slash hd, List.append_assoc, List.singleton_append]

theorem mem_slash_joinPath {q : Path} (hq : 2 ≤ q.length) : '/' ∈ joinPath q := by
  match q, hq with
  | a :: b :: r, _ =>
    rw [joinPath_cons a (List.cons_ne_nil b r)]
    exact List.mem_append_right a List.mem_cons_self

theorem flatMap_slash_prefix {m : Name} (hm : '/' ∉ m) {q d : Path} (hq : ∀ c ∈ q, '/' ∉ c) (hd : ∀ c ∈ d, '/' ∉ c) :
    q.flatMap (· ++ ['/']) <+: d.flatMap (· ++ ['/']) ++ m ↔ q <+: d := by
  induction q generalizing d with
  | nil => simp
  | cons a q ih =>
    obtain ⟨ha, hq⟩ := List.forall_mem_cons.1 hq
    rw [List.flatMap_cons, List.append_assoc, List.singleton_append]
    cases d with
    | nil =>
      rw [List.flatMap_nil, List.nil_append, List.prefix_nil]
      exact iff_of_false (fun h => hm (h.subset (by simp))) (List.cons_ne_nil a q)
    | cons b d =>
      obtain ⟨hb, hd⟩ := List.forall_mem_cons.1 hd
      rw [List.flatMap_cons, List.append_assoc, List.append_assoc, List.singleton_append, prefix_sep ha hb, ih hq hd,
        List.cons_prefix_cons]

theorem joinPath_inj {p q : Path} (hp : ∀ c ∈ p, '/' ∉ c) (hq : ∀ c ∈ q, '/' ∉ c) (hp0 : p ≠ []) (hq0 : q ≠ [])
    (h : joinPath p = joinPath q) : p = q := by
  have hsep : p.flatMap (· ++ ['/']) = q.flatMap (· ++ ['/']) := by
    rw [← joinPath_append_slash hp0, ← joinPath_append_slash hq0, h]
  -- each path is a prefix of the other
  have h1 : p <+: q := (flatMap_slash_prefix List.not_mem_nil hp hq).1 (hsep ▸ List.prefix_append _ [])
  have h2 : q <+: p := (flatMap_slash_prefix List.not_mem_nil hq hp).1 (hsep ▸ List.prefix_append _ [])
  exact h1.eq_of_length_le h2.length_le

theorem suffix_joinPath_concat {e : List Char} (he : '/' ∉ e) (d : Path) (n : Name) :
    e <:+ joinPath (d ++ [n]) ↔ e <:+ n := by
  cases d with
  | nil => rfl
  | cons a d => rw [joinPath_concat_of_ne_nil (List.cons_ne_nil a d), suffix_append_sep he]

theorem getLast?_joinPath_ne_slash {q : Path} (hq : ∀ c ∈ q, '/' ∉ c ∧ c ≠ []) (hq0 : q ≠ []) :
    (joinPath q).getLast? ≠ some '/' := by
  obtain ⟨d, n, rfl⟩ := exists_concat_of_ne_nil hq0
  have hn := hq n (by simp)
  rw [joinPath_concat, getLast?_append_of_ne_nil _ hn.2]
  exact getLast?_ne_of_notMem hn.1

/-! ## The pattern matcher on each kind of pattern -/

theorem rstripSlash_append_slash {q : List Char} (hq : q.getLast? ≠ some '/') : rstripSlash (q ++ ['/']) = q := by
  have hkeep : q.reverse.dropWhile (· == '/') = q.reverse := by
    rw [← List.head?_reverse] at hq
    cases hr : q.reverse with
    | nil => rfl
    | cons c r =>
      rw [hr] at hq
      exact List.dropWhile_cons_of_neg (by simpa using hq)
  rw [rstripSlash, List.reverse_concat, List.dropWhile_cons_of_pos (by rfl), hkeep, List.reverse_reverse]

theorem not_anyDepth_prefix_of_notMem {pat : List Char} (h : '/' ∉ pat) : ¬ ['*', '*', '/'] <+: pat :=
  fun hp => h (hp.subset (by simp))

theorem not_anyDepth_prefix_of_literal {pat : List Char} (h : literal pat = true) : ¬ ['*', '*', '/'] <+: pat := by
  intro hp
  have hstar := List.all_eq_true.1 h '*' (hp.subset (by simp))
  simp [isGlobChar] at hstar

theorem dropAnyDepth_anyDepth (r : List Char) : dropAnyDepth ('*' :: '*' :: '/' :: r) = r := rfl

theorem dropAnyDepth_of_not_prefix {pat : List Char} (h : ¬ ['*', '*', '/'] <+: pat) : dropAnyDepth pat = pat := by
  unfold dropAnyDepth
  split
  · exact absurd ⟨_, rfl⟩ h
  · rfl

theorem anyDepthAlt_anyDepth (r s : List Char) : anyDepthAlt ('*' :: '*' :: '/' :: r) s = glob r s := rfl

theorem anyDepthAlt_of_not_prefix {pat : List Char} (h : ¬ ['*', '*', '/'] <+: pat) (s : List Char) :
    anyDepthAlt pat s = false := by
  unfold anyDepthAlt
  split
  · exact absurd ⟨_, rfl⟩ h
  · rfl

/-- a pattern that ends in `/` is a directory pattern: it is tried on the directory components, and, when it has
    more than one component, on the whole path -/
theorem matchesPattern_slash (p : Path) {q : List Char} (hq : q.getLast? ≠ some '/') :
    matchesPattern p (q ++ ['/']) =
      ((dirParts p).any (fun part => glob (dropAnyDepth q) part) ||
        ((dropAnyDepth q).contains '/' && glob (dropAnyDepth q ++ ['/', '*']) (joinPath p))) := by
  rw [matchesPattern, if_pos (by rw [List.getLast?_concat]; rfl), matchesDirPattern, rstripSlash_append_slash hq]

theorem matchesPattern_no_slash (p : Path) {pat : List Char} (h : pat.getLast? ≠ some '/') :
    matchesPattern p pat = (glob pat (joinPath p) || anyDepthAlt pat (joinPath p)) := by
  rw [matchesPattern, if_neg (by simpa using h)]

theorem any_glob_literal {n : List Char} (hn : literal n = true) (l : List (List Char)) :
    l.any (fun c => glob n c) = l.contains n := by
  rw [List.contains_eq_any_beq]
  exact List.any_congr rfl (fun c => by rw [Bool.eq_iff_iff, glob_literal n c hn, beq_iff_eq, eq_comm])

end ThaiLintModel.C14
