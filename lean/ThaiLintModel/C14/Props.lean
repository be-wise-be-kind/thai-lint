/-
C14 — property theorems about which files a run lints.
-/
import ThaiLintModel.C14.Lemmas
import ThaiLintModel.Core.ListLemmas
namespace ThaiLintModel.C14
open ThaiLintModel

/-! ## The walk prunes exactly what the specification excludes, at every depth -/

theorem allFiles_ne_nil (pre : Path) : (t : Nodes) → ∀ p ∈ allFiles pre t, p ≠ []
  | .nil, p, hp => nomatch hp
  | .cons (.file n) t, p, hp => by
      rw [allFiles, List.mem_cons] at hp
      rcases hp with rfl | hp
      · exact List.concat_ne_nil n pre
      · exact allFiles_ne_nil pre t p hp
  | .cons (.dir n kids) t, p, hp => by
      rw [allFiles, List.mem_append] at hp
      exact hp.elim (allFiles_ne_nil (pre ++ [n]) kids p) (allFiles_ne_nil pre t p)

theorem topFiles_length : (t : Nodes) → ∀ p ∈ topFiles t, p.length = 1
  | .nil, p, hp => nomatch hp
  | .cons (.file n) t, p, hp => by
      rw [topFiles, List.mem_cons] at hp
      rcases hp with rfl | hp
      · rfl
      · exact topFiles_length t p hp
  | .cons (.dir _ _) t, p, hp => topFiles_length t p hp

theorem specExcluded_concat (d : Path) (m : Name) :
    specExcluded (d ++ [m]) = (extExcluded m || d.any dirExcluded) := by
  rw [specExcluded, List.getLast?_concat, dirParts, List.dropLast_concat]

theorem specExcluded_singleton (n : Name) : specExcluded [n] = extExcluded n :=
  (specExcluded_concat [] n).trans (Bool.or_false _)

/-- **Pruning during the walk = filtering afterwards**: no file below an always-excluded directory
    (at any depth) is collected, no compiled artefact is collected, and every other file is.
    Stated below any directory `pre`, so that the step into a sub-directory is the statement itself: once a
    component of `pre` is always excluded, the filter keeps nothing. -/
theorem filter_allFiles (pre : Path) : (t : Nodes) →
    (allFiles pre t).filter (fun p => !specExcluded p) = if pre.any dirExcluded then [] else walk pre t
  | .nil => by
      rw [allFiles, walk, List.filter_nil, ite_self]
  | .cons (.file n) t => by
      rw [allFiles, walk, List.filter_cons, specExcluded_concat, filter_allFiles pre t]
      cases pre.any dirExcluded
      · cases extExcluded n <;> rfl
      · simp
  | .cons (.dir n kids) t => by
      rw [allFiles, walk, List.filter_append, filter_allFiles (pre ++ [n]) kids, filter_allFiles pre t,
        List.any_append, List.any_cons, List.any_nil, Bool.or_false]
      cases pre.any dirExcluded <;> rfl

/-- `--no-recursive`: exactly the direct children that are not compiled artefacts -/
theorem walkTop_eq_filter :
    (t : Nodes) → walkTop t = (topFiles t).filter (fun p => !specExcluded p)
  | .nil => rfl
  | .cons (.file n) t => by
      rw [walkTop, topFiles, List.filter_cons, walkTop_eq_filter t, specExcluded_singleton]
      cases extExcluded n <;> rfl
  | .cons (.dir _ _) t => by
      rw [walkTop, topFiles, walkTop_eq_filter t]

theorem collect_eq (recursive : Bool) (t : Nodes) :
    collect recursive t =
      (if recursive then allFiles [] t else topFiles t).filter (fun p => !specExcluded p) := by
  cases recursive
  · exact walkTop_eq_filter t
  · exact (filter_allFiles [] t).symm

/-- `lint_file`'s gate looks at the directories of the target below the project root as well -/
theorem hardExcluded_eq_specExcluded (rel p : Path) :
    hardExcluded rel p = (specExcluded p || rel.any dirExcluded) := by
  rw [hardExcluded, specExcluded, List.any_append, Bool.or_assoc, Bool.or_comm (rel.any dirExcluded)]

/-- **The linted set is exactly the specified one**, for every tree, target position and recursion
    mode, whenever the matcher agrees with the gitignore reading on the patterns in use — which
    `forms_exact` below proves for every documented pattern form. -/
theorem linted_eq_spec_of_match (recursive : Bool) (rel : Path) (forms : List Form) (t : Nodes)
    (hmatch : ∀ p ∈ (if recursive then allFiles [] t else topFiles t),
                 isIgnored (forms.map Form.render) (rel ++ p) = forms.any (fun f => f.specMatch (rel ++ p))) :
    linted recursive rel (forms.map Form.render) t = specLinted recursive rel forms t := by
  rw [linted, specLinted, collect_eq, List.filter_filter]
  apply List.filter_congr
  intro p hp
  rw [hardExcluded_eq_specExcluded, hmatch p hp]
  cases specExcluded p <;> simp

/-- an excluded or ignored file is never linted, even when it is named explicitly -/
theorem explicit_excluded_never_linted (rel : Path) (pats : List (List Char)) (p : Path)
    (h : hardExcluded rel p = true ∨ isIgnored pats (rel ++ p) = true) :
    lintedExplicit rel pats p = false := by
  rcases h with h | h <;> simp [lintedExplicit, h]

/-! ## Pattern forms: where the matcher agrees with the gitignore reading, and where it does not -/

/-- `*.ext` patterns are exact: the file's name ends with the extension, in any directory -/
theorem ext_pattern_exact (e : Name) (p : Path) (he : literal e = true) (hs : '/' ∉ e) (hp : p ≠ []) :
    matchesPattern p (Form.ext e).render = (Form.ext e).specMatch p := by
  obtain ⟨d, n, rfl⟩ := exists_concat_of_ne_nil hp
  have hs' : '/' ∉ '*' :: e := by simpa using hs
  rw [Form.render, matchesPattern_no_slash _ (getLast?_ne_of_notMem hs'),
    anyDepthAlt_of_not_prefix (not_anyDepth_prefix_of_notMem hs'), Bool.or_false, Form.specMatch, List.getLast?_concat,
    Bool.eq_iff_iff, glob_star_literal e _ he, List.isSuffixOf_iff_suffix]
  exact suffix_joinPath_concat hs d n

/-- glob directory patterns (`*.egg-info/`, `**/*_generated/`): some directory component matches the glob -/
theorem globdir_pattern_exact (a : Bool) (g : Name) (p : Path) (hs : '/' ∉ g) (hne : g ≠ []) :
    matchesPattern p (Form.globDir a g).render = (Form.globDir a g).specMatch p := by
  have hlast : ((if a then ['*', '*', '/'] else []) ++ g).getLast? ≠ some '/' := by
    rw [getLast?_append_of_ne_nil _ hne]
    exact getLast?_ne_of_notMem hs
  have hdrop : dropAnyDepth ((if a then ['*', '*', '/'] else []) ++ g) = g := by
    cases a
    · exact dropAnyDepth_of_not_prefix (not_anyDepth_prefix_of_notMem hs)
    · exact dropAnyDepth_anyDepth g
  rw [Form.render, ← List.append_assoc, matchesPattern_slash p hlast, hdrop, List.contains_eq_mem, decide_eq_false hs,
    Bool.false_and, Bool.or_false, Form.specMatch]

/-- `name/` is exact: ignored iff some *directory* component of the path is `name` -/
theorem dir_pattern_exact (n : Name) (p : Path) (hn : literal n = true) (hs : '/' ∉ n) (hne : n ≠ []) :
    matchesPattern p (Form.dirName n).render = (Form.dirName n).specMatch p :=
  (globdir_pattern_exact false n p hs hne).trans (any_glob_literal hn _)

/-- `**/name/` is exact too (a top-level `name/` directory included) -/
theorem anydir_pattern_exact (n : Name) (p : Path) (hn : literal n = true) (hs : '/' ∉ n) (hne : n ≠ []) :
    matchesPattern p (Form.anyDirName n).render = (Form.anyDirName n).specMatch p :=
  (globdir_pattern_exact true n p hs hne).trans (any_glob_literal hn _)

/-- an exact relative path is matched by exactly that path -/
theorem exact_pattern_exact (q p : Path) (hq : literal (joinPath q) = true)
    (hqs : ∀ c ∈ q, '/' ∉ c) (hps : ∀ c ∈ p, '/' ∉ c) (hq0 : q ≠ []) (hp0 : p ≠ [])
    (hlast : (joinPath q).getLast? ≠ some '/') :
    matchesPattern p (Form.exact q).render = (Form.exact q).specMatch p := by
  rw [Form.render, matchesPattern_no_slash p hlast, anyDepthAlt_of_not_prefix (not_anyDepth_prefix_of_literal hq),
    Bool.or_false, Form.specMatch, Bool.eq_iff_iff, glob_literal _ _ hq, beq_iff_eq]
  exact ⟨joinPath_inj hps hqs hp0 hq0, congrArg joinPath⟩

theorem notMem_joinPath_single {a : Name} {x : List Char} (ha : '/' ∉ a) : a ≠ a ++ '/' :: x ∧ True :=
  ⟨fun h => List.cons_ne_nil '/' x (List.self_eq_append_right.1 h), trivial⟩

/-- a joined directory path followed by `/` is a prefix of a joined path exactly when its components are a prefix of
    the path's directory components -/
theorem joinPath_slash_prefix : (q p : Path) → (∀ c ∈ q, '/' ∉ c) → (∀ c ∈ p, '/' ∉ c) → q ≠ [] → p ≠ [] →
    ((joinPath q ++ ['/']) <+: joinPath p ↔ q <+: dirParts p) := by
  intro q p hq hp hq0 hp0
  obtain ⟨d, m, rfl⟩ := exists_concat_of_ne_nil hp0
  rw [joinPath_append_slash hq0, joinPath_concat, dirParts, List.dropLast_concat]
  obtain ⟨hd, hm⟩ := List.forall_mem_append.1 hp
  exact flatMap_slash_prefix (hm m List.mem_cons_self) hq hd

/-- `a/b/` (a directory given by its path from the root, two or more literal components): exactly the files below
    that directory, at any depth -/
theorem dirpath_pattern_exact (q p : Path) (hq : literal (joinPath q) = true) (hq2 : 2 ≤ q.length)
    (hqs : ∀ c ∈ q, '/' ∉ c) (hps : ∀ c ∈ p, '/' ∉ c) (hp0 : p ≠ [])
    (hlast : (joinPath q).getLast? ≠ some '/') :
    matchesPattern p (Form.dirPath q).render = (Form.dirPath q).specMatch p := by
  have hq0 : q ≠ [] := List.ne_nil_of_length_pos (by omega)
  have hmem := mem_slash_joinPath hq2
  -- no single component is the whole pattern, which has a `/` in it
  have hany : (dirParts p).contains (joinPath q) = false := by
    rw [List.contains_eq_mem, decide_eq_false]
    intro h
    exact hps _ (List.dropLast_subset _ h) hmem
  have hlit : literal (joinPath q ++ ['/']) = true := by
    rw [literal, List.all_append, Bool.and_eq_true]
    exact ⟨hq, by decide⟩
  have e : joinPath q ++ ['/', '*'] = (joinPath q ++ ['/']) ++ ['*'] := by simp
  rw [Form.render, matchesPattern_slash p hlast, dropAnyDepth_of_not_prefix (not_anyDepth_prefix_of_literal hq),
    any_glob_literal hq, hany, List.contains_eq_mem, decide_eq_true hmem, Bool.false_or, Bool.true_and, Form.specMatch,
    Bool.eq_iff_iff, e, glob_literal_star _ _ hlit, List.isPrefixOf_iff_prefix, joinPath_slash_prefix q p hqs hps hq0 hp0]

/-- `/name` ends a joined path exactly when the path has a directory part and its last component is `name` -/
theorem slash_suffix_joinPath (n : Name) (hn : '/' ∉ n) : (p : Path) → (∀ c ∈ p, '/' ∉ c) → p ≠ [] →
    (('/' :: n) <:+ joinPath p ↔ 2 ≤ p.length ∧ p.getLast? = some n) := by
  intro p hp hp0
  obtain ⟨d, m, rfl⟩ := exists_concat_of_ne_nil hp0
  have hm : '/' ∉ m := hp m (by simp)
  rw [List.getLast?_concat, Option.some.injEq, List.length_append, List.length_singleton]
  cases d with
  | nil =>
    exact ⟨fun h => absurd (h.subset List.mem_cons_self) hm, fun h => absurd h.1 (by decide)⟩
  | cons a d =>
    rw [joinPath_concat_of_ne_nil (List.cons_ne_nil a d), sep_suffix_append_sep hn hm, List.length_cons]
    exact ⟨fun h => ⟨by omega, h.symm⟩, fun h => h.2.symm⟩

/-- `**/name` : a file of that name at any depth, the top level included (F14e repaired) -/
theorem anyfile_pattern_exact (n : Name) (p : Path) (hn : literal n = true) (hs : '/' ∉ n) (hne : n ≠ [])
    (hps : ∀ c ∈ p, '/' ∉ c) (hp0 : p ≠ []) :
    matchesPattern p (Form.anyFile n).render = (Form.anyFile n).specMatch p := by
  have hlast : ('*' :: '*' :: '/' :: n).getLast? ≠ some '/' := by
    rw [show '*' :: '*' :: '/' :: n = ['*', '*', '/'] ++ n from rfl, getLast?_append_of_ne_nil _ hne]
    exact getLast?_ne_of_notMem hs
  have hlit : literal ('/' :: n) = true := by
    rw [literal, List.all_cons, Bool.and_eq_true]
    exact ⟨by decide, hn⟩
  rw [Form.render, matchesPattern_no_slash p hlast, anyDepthAlt_anyDepth, Form.specMatch, Bool.eq_iff_iff, Bool.or_eq_true,
    glob_star_star, glob_star_literal _ _ hlit, glob_literal _ _ hn, slash_suffix_joinPath n hs p hps hp0, beq_iff_eq]
  constructor
  · rintro (⟨_, h⟩ | h)
    · exact h
    · rw [joinPath_inj hps (List.forall_mem_singleton.2 hs) hp0 (List.cons_ne_nil n []) h]
      rfl
  · intro h
    obtain ⟨d, rfl⟩ := List.getLast?_eq_some_iff.1 h
    cases d with
    | nil => exact Or.inr rfl
    | cons a d => exact Or.inl ⟨by simp, h⟩

/-- **Every documented pattern form means what gitignore says it means.** -/
theorem forms_exact (f : Form) (p : Path) (hf : f.wf = true) (hps : ∀ c ∈ p, '/' ∉ c) (hp0 : p ≠ []) :
    matchesPattern p f.render = f.specMatch p := by
  cases f <;> simp [Form.wf] at hf
  case dirName n => exact dir_pattern_exact n p hf.1.1 hf.1.2 hf.2
  case anyDirName n => exact anydir_pattern_exact n p hf.1.1 hf.1.2 hf.2
  case ext e => exact ext_pattern_exact e p hf.1 hf.2 hp0
  case exact q =>
    obtain ⟨⟨hlit, hq⟩, hq0⟩ := hf
    exact exact_pattern_exact q p hlit (fun c hc => (hq c hc).1) hps hq0 hp0 (getLast?_joinPath_ne_slash hq hq0)
  case globDir a g => exact globdir_pattern_exact a g p hf.1.1 hf.1.2
  case anyFile n => exact anyfile_pattern_exact n p hf.1.1 hf.1.2 hf.2 hps hp0
  case dirPath q =>
    obtain ⟨⟨hlit, hq⟩, hq2⟩ := hf
    have hq0 : q ≠ [] := List.ne_nil_of_length_pos (by omega)
    exact dirpath_pattern_exact q p hlit hq2 (fun c hc => (hq c hc).1) hps hp0 (getLast?_joinPath_ne_slash hq hq0)

/-- concrete instances of the multi-component directory form (`dirpath_pattern_exact`): everything below the
    directory is matched, at any depth, and nothing beside it -/
example : matchesPattern ["src".toList, "generated".toList, "v2".toList, "m.py".toList] (Form.dirPath ["src".toList, "generated".toList]).render = true ∧
    matchesPattern ["src".toList, "generated".toList, "a.py".toList] (Form.dirPath ["src".toList, "generated".toList]).render = true ∧
    matchesPattern ["src".toList, "generated.py".toList] (Form.dirPath ["src".toList, "generated".toList]).render = false ∧
    matchesPattern ["lib".toList, "src".toList, "generated".toList, "a.py".toList] (Form.dirPath ["src".toList, "generated".toList]).render = false ∧
    (Form.dirPath ["src".toList, "generated".toList]).specMatch ["src".toList, "generated".toList, "v2".toList, "m.py".toList] = true ∧
    (Form.dirPath ["src".toList, "generated".toList]).specMatch ["src".toList, "generated.py".toList] = false := by decide

theorem isIgnored_eq_spec (forms : List Form) (p : Path) (hf : ∀ f ∈ forms, f.wf = true)
    (hps : ∀ c ∈ p, '/' ∉ c) (hp0 : p ≠ []) :
    isIgnored (forms.map Form.render) p = forms.any (fun f => f.specMatch p) := by
  induction forms with
  | nil => rfl
  | cons f r ih =>
    have h1 := forms_exact f p (hf f List.mem_cons_self) hps hp0
    have h2 := ih (fun g hg => hf g (List.mem_cons_of_mem f hg))
    rw [isIgnored] at h2 ⊢
    rw [List.map_cons, List.any_cons, List.any_cons, h1, h2]

/-- **C14, full strength**: for every tree, every set of documented pattern forms, recursive or not,
    from the project root or a sub-directory, the run lints exactly the regular files under the
    target that are not inside an always-excluded directory, not compiled artefacts and not matched
    by an ignore pattern (gitignore reading). -/
theorem linted_eq_spec (recursive : Bool) (rel : Path) (forms : List Form) (t : Nodes)
    (hf : ∀ f ∈ forms, f.wf = true)
    (hrel : ∀ c ∈ rel, '/' ∉ c)
    (hnames : ∀ p ∈ (if recursive then allFiles [] t else topFiles t), ∀ c ∈ p, '/' ∉ c) :
    linted recursive rel (forms.map Form.render) t = specLinted recursive rel forms t := by
  apply linted_eq_spec_of_match
  intro p hp
  have hne : p ≠ [] := by
    cases recursive
    · exact List.ne_nil_of_length_pos (by rw [topFiles_length t p hp]; decide)
    · exact allFiles_ne_nil [] t p hp
  apply isIgnored_eq_spec forms (rel ++ p) hf
  · intro c hc
    rcases List.mem_append.1 hc with h | h
    · exact hrel c h
    · exact hnames p hp c h
  · exact List.append_ne_nil_of_right_ne_nil rel hne

theorem extractPatterns_no_comment (lines : List (List Char)) :
    ∀ l ∈ extractPatterns lines, l ≠ [] ∧ l.head? ≠ some '#' := by
  intro l hl
  simp [extractPatterns] at hl
  obtain ⟨_, h1, h2⟩ := hl
  exact ⟨by simpa using h1, by simpa using h2⟩

/-! ## Witnesses (decided by the kernel) -/

def nm (s : String) : Name := s.toList
/-- gen/a.py, sub/gen/b.py, generic.py, top.py -/
def exTree : Nodes :=
  .cons (.dir (nm "gen") (.cons (.file (nm "a.py")) .nil))
  (.cons (.dir (nm "sub") (.cons (.dir (nm "gen") (.cons (.file (nm "b.py")) .nil)) .nil))
  (.cons (.file (nm "generic.py")) (.cons (.file (nm "top.py")) (.cons (.file (nm "mod.pyc"))
  (.cons (.dir (nm "node_modules") (.cons (.file (nm "x.py")) .nil)) .nil)))))

/-- non-vacuity: compiled files / excluded directories are dropped at every depth -/
example : linted true [] [(Form.ext (nm ".pyc")).render] exTree =
    [[nm "gen", nm "a.py"], [nm "sub", nm "gen", nm "b.py"], [nm "generic.py"], [nm "top.py"]] := by decide

/-- regression witnesses for the repaired findings F14a/F14b/F14c (fix: commits in /repo):
    `**/gen/` ignores the top-level `gen/a.py`; `gen/` does not ignore `generic.py`; a file named
    `build` is linted; a project that lives under a directory called `build` is linted. -/
example : matchesPattern [nm "gen", nm "a.py"] (Form.anyDirName (nm "gen")).render = true ∧
    matchesPattern [nm "generic.py"] (Form.dirName (nm "gen")).render = false ∧
    hardExcluded [] [nm "scripts", nm "build"] = false ∧
    hardExcluded [nm "build"] [nm "x.py"] = true := by decide

/-! ## Several targets -/

/-- **every file at most once**, however the targets overlap (a directory and a file in it, a directory
    named twice, a directory and one of its sub-directories) -/
theorem lintedTargets_nodup (recursive : Bool) (pats : List (List Char)) (t : Nodes) (ts : List Target) :
    (lintedTargets recursive pats t ts).Nodup := nodup_eraseDups _

/-- **the run lints exactly the union of what each target contributes** -/
theorem mem_lintedTargets (recursive : Bool) (pats : List (List Char)) (t : Nodes) (ts : List Target) (p : Path) :
    p ∈ lintedTargets recursive pats t ts ↔ ∃ tg ∈ ts, p ∈ lintedOne recursive pats t tg := by
  rw [lintedTargets, List.mem_eraseDups, List.mem_flatMap]

/-- **`--no-recursive` holds for every directory target of a run**: a directory contributes only its direct
    children, also when it is one of several targets -/
theorem nonrecursive_direct_children (pats : List (List Char)) (t : Nodes) (d : Path) (p : Path)
    (h : p ∈ lintedOne false pats t (.dir d)) : p.length = d.length + 1 := by
  simp only [lintedOne] at h
  cases hs : subtreeAt d t with
  | none => simp [hs] at h
  | some s =>
    simp only [hs, List.mem_map] at h
    obtain ⟨q, hq, rfl⟩ := h
    rw [linted, collect_eq] at hq
    have hq' : q ∈ topFiles s := (List.mem_filter.1 (List.mem_filter.1 hq).1).1
    rw [List.length_append, topFiles_length s q hq']

/-- one directory target that is the project root is the single-target run -/
theorem lintedTargets_root (recursive : Bool) (pats : List (List Char)) (t : Nodes) :
    lintedTargets recursive pats t [.dir []] = (linted recursive [] pats t).eraseDups := by
  simp [lintedTargets, lintedOne, subtreeAt]

/-- F14e (repaired): `**/a_gen.py` did not match the top-level file of that name, only deeper ones -/
theorem F14e_witness :
    matchesPatternOld [nm "a_gen.py"] (Form.anyFile (nm "a_gen.py")).render = false ∧
    matchesPattern [nm "a_gen.py"] (Form.anyFile (nm "a_gen.py")).render = true ∧
    matchesPatternOld [nm "sub", nm "a_gen.py"] (Form.anyFile (nm "a_gen.py")).render = true ∧
    matchesPattern [nm "sub", nm "xa_gen.py"] (Form.anyFile (nm "a_gen.py")).render = false := by decide

/-- the repair of F14e only adds matches: whatever the old reading ignored is still ignored -/
theorem repair_only_adds (p : Path) (pat : List Char) (h : matchesPatternOld p pat = true) : matchesPattern p pat = true := by
  unfold matchesPatternOld at h
  unfold matchesPattern
  split
  next hdir => rwa [if_pos hdir] at h
  next hfile =>
    rw [if_neg hfile] at h
    rw [h, Bool.true_or]

end ThaiLintModel.C14
