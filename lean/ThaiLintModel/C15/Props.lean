import ThaiLintModel.C15.Model
namespace ThaiLintModel.C15
open ThaiLintModel

/-- T1 tie, kernel-checked: the filter predicate extracted from the source of each command is the
    one the command was *observed* to apply on every probe id (all rule ids + adversarial ids). -/
theorem filter_model_matches_behaviour :
    ∀ row ∈ Gen.Cli.behaviour, Gen.Cli.probeIds.filter (cmdPasses row.1) = row.2 := by decide +kernel

/-- every linter command has a filter and a documented owner -/
theorem commands_covered :
    ∀ c ∈ Gen.Cli.commands, (filterOf c).isSome = true ∧ (ownership.find? (fun r => r.1 == c)).isSome = true := by
  decide +kernel

/-- **`thailint X` outputs exactly the violations whose rule id belongs to linter X**:
    for every linter command and every rule id the code base can emit. -/
theorem command_filter_exact :
    ∀ c ∈ Gen.Cli.commands, ∀ r ∈ Gen.Cli.ruleIds, cmdPasses c r = owns c r := by decide +kernel

/-- no rule id is printed by two commands that do not share an owner -/
theorem commands_disjoint :
    ∀ c ∈ Gen.Cli.commands, ∀ c' ∈ Gen.Cli.commands, ∀ r ∈ Gen.Cli.ruleIds,
      cmdPasses c r = true → cmdPasses c' r = true → (owns c r = true ∧ owns c' r = true) :=
  fun c hc c' hc' r hr hpass hpass' =>
    ⟨command_filter_exact c hc r hr ▸ hpass, command_filter_exact c' hc' r hr ▸ hpass'⟩

theorem lower_not_upper : ∀ r ∈ upperLower, upperLower.find? (fun q => q.1 == r.2) = none := by decide +kernel

theorem lowerChar_idem (c : Char) : lowerChar (lowerChar c) = lowerChar c := by
  unfold lowerChar
  cases h : upperLower.find? (fun r => r.1 == c) with
  | none => simp only [h]
  | some r => simp only [lower_not_upper r (List.mem_of_find?_eq_some h)]

theorem lower_idem (s : List Char) : lower (lower s) = lower s := by
  simp only [lower, List.map_map, Function.comp_def, lowerChar_idem]

/-- **Language is decided by the extension, case-insensitively**: any spelling of the suffix that
    lower-cases to the same text gives the same language (`.PY`, `.Py`, `.py`). -/
theorem detect_case_insensitive (s1 s2 : List Char) (ne : Bool) (fl : List Char) (h : lower s1 = lower s2) :
    detectLanguage s1 ne fl = detectLanguage s2 ne fl := by
  unfold detectLanguage extLookup
  rw [h]

theorem detect_lower (s : List Char) (ne : Bool) (fl : List Char) :
    detectLanguage (lower s) ne fl = detectLanguage s ne fl :=
  detect_case_insensitive _ _ ne fl (lower_idem s)

/-- every mapped extension is recognised whatever its letter case (table-wide) -/
theorem extension_table_lookup :
    ∀ r ∈ Gen.Cli.extensionMap, extLookup r.1.toList = some r.2 ∧
      extLookup (r.1.toList.map Char.toUpper) = some r.2 := by
  decide +kernel

theorem detectLanguage_of_extLookup_some {suffix : List Char} {l : String} (h : extLookup suffix = some l)
    (ne : Bool) (fl : List Char) : detectLanguage suffix ne fl = l := by
  unfold detectLanguage
  rw [h]

theorem extension_table_recognised (r : String × String) (hr : r ∈ Gen.Cli.extensionMap) (ne : Bool) (fl : List Char) :
    detectLanguage r.1.toList ne fl = r.2 ∧ detectLanguage (r.1.toList.map Char.toUpper) ne fl = r.2 := by
  have h := extension_table_lookup r hr
  exact ⟨detectLanguage_of_extLookup_some h.1 ne fl, detectLanguage_of_extLookup_some h.2 ne fl⟩

/-- extensionless / unmapped files: python only through a `#!…python` first line of a non-empty file -/
theorem shebang_rule (suffix fl : List Char) (ne : Bool)
    (h : extLookup suffix = none) :
    detectLanguage suffix ne fl =
      (if ne && startsWith fl "#!".toList && containsSub fl "python".toList then "python" else "unknown") := by
  unfold detectLanguage
  rw [h]

/-- **A file of an unrecognised type yields no source-analysis violation**: no checker is
    dispatched for it, and Python-only rules do not run. -/
theorem unknown_yields_nothing : dispatch "unknown" = .none ∧ ∀ hc, pythonOnlyRuns "unknown" hc = false := by
  decide

/-- **Language-specific checkers never run on a file of another language** (table-wide): the
    checker dispatched for a detected language is the one of that language. -/
theorem no_cross_language :
    ∀ r ∈ Gen.Cli.extensionMap,
      (dispatch r.2 = .python ↔ r.2 = "python") ∧
      (dispatch r.2 = .typescript ↔ (r.2 = "typescript" ∨ r.2 = "javascript")) ∧
      (dispatch r.2 = .rust ↔ r.2 = "rust") ∧
      (∀ hc, pythonOnlyRuns r.2 hc = true → r.2 = "python") := by
  decide +kernel

/-- non-vacuity: the tables are not empty and contain the documented languages -/
example : Gen.Cli.commands.length ≥ 18 ∧ Gen.Cli.ruleIds.length ≥ 20 ∧
    detectLanguage ".TSX".toList true [] = "typescript" ∧
    detectLanguage [] true "#!/usr/bin/env python3".toList = "python" ∧
    detectLanguage [] false "#!/usr/bin/env python3".toList = "unknown" ∧
    detectLanguage ".txt".toList true "print(1)".toList = "unknown" := by decide +kernel

end ThaiLintModel.C15
