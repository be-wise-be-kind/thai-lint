import ThaiLintModel.C16.Model
namespace ThaiLintModel.C16

theorem ite_singleton_sublist {α} (p : Prop) [Decidable p] (x : α) : (if p then [x] else []).Sublist [x] := by
  split
  · exact List.Sublist.refl _
  · exact List.nil_sublist _

/-- each criterion contributes its one entry or nothing -/
theorem evaluate_sublist (c : Cfg) (m l : Nat) (kw : Bool) :
    (evaluate c m l kw).Sublist [.methods m c.maxMethods, .lines l c.maxLoc, .keyword] :=
  ((ite_singleton_sublist _ _).append (ite_singleton_sublist _ _)).append (ite_singleton_sublist _ _)

/-- **The message lists exactly the criteria that were exceeded, with the true counts** -/
theorem message_exact (c : Cfg) (m l : Nat) (kw : Bool) (i : Issue) :
    i ∈ evaluate c m l kw ↔
      (i = .methods m c.maxMethods ∧ m > c.maxMethods) ∨ (i = .lines l c.maxLoc ∧ l > c.maxLoc) ∨
      (i = .keyword ∧ c.checkKeywords = true ∧ kw = true) := by
  simp only [evaluate, List.mem_append, List.mem_ite_nil_right, List.mem_singleton, Bool.and_eq_true, or_assoc,
    and_comm (b := i = _)]

/-- at most one entry per criterion -/
theorem issues_nodup (c : Cfg) (m l : Nat) (kw : Bool) : (evaluate c m l kw).Nodup :=
  (evaluate_sublist c m l kw).nodup (by simp)

/-- at most one issue of each kind: never more than three per class -/
theorem issues_le_three (c : Cfg) (m l : Nat) (kw : Bool) : (evaluate c m l kw).length ≤ 3 :=
  (evaluate_sublist c m l kw).length_le

/-- **Reported iff a threshold is exceeded or a responsibility keyword is in the name** -/
theorem srp_iff (c : Cfg) (m l : Nat) (kw : Bool) :
    reported c m l kw = true ↔ (m > c.maxMethods ∨ l > c.maxLoc ∨ (c.checkKeywords = true ∧ kw = true)) := by
  simp only [reported, Bool.not_eq_true', List.isEmpty_eq_false_iff_exists_mem, message_exact, exists_or, exists_eq_left]

/-- **Exactly on a limit: not reported; one above: reported** -/
theorem boundary (c : Cfg) (l : Nat) (hl : l ≤ c.maxLoc) (hk : c.checkKeywords = false) :
    reported c c.maxMethods l false = false ∧ reported c (c.maxMethods + 1) l false = true :=
  ⟨by simpa [Bool.eq_false_iff, srp_iff] using hl, (srp_iff ..).2 (Or.inl (Nat.lt_succ_self _))⟩

theorem boundary_loc (c : Cfg) (m : Nat) (hm : m ≤ c.maxMethods) (hk : c.checkKeywords = false) :
    reported c m c.maxLoc false = false ∧ reported c m (c.maxLoc + 1) false = true :=
  ⟨by simpa [Bool.eq_false_iff, srp_iff] using hm, (srp_iff ..).2 (Or.inr (Or.inl (Nat.lt_succ_self _)))⟩

/-- a report survives whatever keeps each exceeded criterion exceeded -/
theorem reported_mono {c c' : Cfg} {m m' l l' : Nat} {kw : Bool}
    (hm : m > c.maxMethods → m' > c'.maxMethods) (hl : l > c.maxLoc → l' > c'.maxLoc)
    (hk : c.checkKeywords = true → c'.checkKeywords = true) :
    reported c m l kw = true → reported c' m' l' kw = true := by
  rw [srp_iff, srp_iff]
  exact Or.imp hm (Or.imp hl (And.imp_left hk))

/-- a more permissive threshold never adds a report -/
theorem thresholds_monotone (c c' : Cfg) (m l : Nat) (kw : Bool)
    (hm : c.maxMethods ≤ c'.maxMethods) (hl : c.maxLoc ≤ c'.maxLoc) (hk : c'.checkKeywords = c.checkKeywords) :
    reported c' m l kw = true → reported c m l kw = true :=
  reported_mono (Nat.lt_of_le_of_lt hm) (Nat.lt_of_le_of_lt hl) (hk ▸ id)

/-- a class that grows (more methods, more code lines, same name) is never un-reported -/
theorem growth_monotone (c : Cfg) (m m' l l' : Nat) (kw : Bool) (hm : m ≤ m') (hl : l ≤ l') :
    reported c m l kw = true → reported c m' l' kw = true :=
  reported_mono (fun h => Nat.lt_of_lt_of_le h hm) (fun h => Nat.lt_of_lt_of_le h hl) id

theorem count_append (l : Lang) (a b : List Member) : countMethods l (a ++ b) = countMethods l a + countMethods l b := by
  simp [countMethods, List.filter_append]

/-- only countable members change the method count: adding private / dunder / field members never does -/
theorem count_uncountable (l : Lang) (ms : List Member) (x : Member) (h : countable l x = false) :
    countMethods l (ms ++ [x]) = countMethods l ms := by
  rw [count_append]
  simp [countMethods, h]

theorem count_countable (l : Lang) (ms : List Member) (x : Member) (h : countable l x = true) :
    countMethods l (ms ++ [x]) = countMethods l ms + 1 := by
  rw [count_append]
  simp [countMethods, h]

/-- blank and comment lines never change the measured size, in any language and at any position -/
theorem loc_ignores_noise (l : Lang) (a b : List LineKind) (k : LineKind) (hk : k ≠ .code) :
    countLoc l (a ++ [k] ++ b) = countLoc l (a ++ b) := by
  have hk' : [k].filter (· == LineKind.code) = [] := List.filter_cons_of_neg (by simpa using hk)
  simp only [countLoc, List.filter_append, hk', List.append_nil]

/-- finding F13a (before the repair): for TypeScript the size was the span of the class, so a blank line
    inside a class changed it -/
theorem F13a_witness : countLocOld .ts [.code, .blank, .code] = 3 ∧ countLoc .ts [.code, .blank, .code] = 2 ∧ countLocOld .ts [.code, .code] = 2 := by decide

/-- **Language-specific overrides apply only to files of that language** -/
theorem override_scoped (dM dL : Nat) (base : Section) (lang other : String) (o : Section) (h : (lang == other) = false) :
    effective dM dL base [(lang, o)] other = effective dM dL base [] other := by
  simp [effective, List.find?, h]

theorem override_applies (dM dL : Nat) (base o : Section) (lang : String) (m l : Nat) (hm : o.maxMethods = some m) (hl : o.maxLoc = some l) :
    effective dM dL base [(lang, o)] lang = (m, l) := by
  simp [effective, List.find?, hm, hl]

/-- the order in which the members are written does not change the count -/
theorem count_perm (l : Lang) (a b : List Member) (h : a.Perm b) : countMethods l a = countMethods l b := by
  unfold countMethods
  exact (h.filter _).length_eq

/-- the method count never exceeds the number of members, the line count never the span -/
theorem count_le (l : Lang) (ms : List Member) (lines : List LineKind) :
    countMethods l ms ≤ ms.length ∧ countLoc l lines ≤ lines.length := by
  unfold countMethods countLoc
  exact ⟨List.length_filter_le _ _, List.length_filter_le _ _⟩

/-- moving blank and comment lines around (or reordering the body) leaves the size unchanged -/
theorem loc_perm (l : Lang) (a b : List LineKind) (h : a.Perm b) : countLoc l a = countLoc l b := by
  unfold countLoc
  exact (h.filter _).length_eq

/-- a language sub-section that sets only one threshold leaves the other to the base value / default -/
theorem override_partial (dM dL : Nat) (base o : Section) (lang : String) (m : Nat)
    (hm : o.maxMethods = some m) (hl : o.maxLoc = none) :
    effective dM dL base [(lang, o)] lang = (m, base.maxLoc.getD dL) := by
  simp [effective, List.find?, hm, hl, Option.orElse]

/-- without any sub-section: base values, then the defaults -/
theorem no_override (dM dL : Nat) (lang : String) (m : Nat) :
    effective dM dL ⟨none, none⟩ [] lang = (dM, dL) ∧ effective dM dL ⟨some m, none⟩ [] lang = (m, dL) := by
  simp [effective]

/-- the first sub-section for a language wins (dictionary semantics of the loader: one key, one section) -/
theorem override_first (dM dL : Nat) (base o o' : Section) (lang : String) (rest : List (String × Section)) :
    effective dM dL base ((lang, o) :: (lang, o') :: rest) lang = effective dM dL base [(lang, o)] lang := by
  simp [effective, List.find?]

/-- of a Python property only the `@property` getter is exempt: its setter / deleter count as public methods -/
theorem setter_counts (ms : List Member) :
    countMethods .py (.setter :: ms) = countMethods .py ms + 1 ∧ countMethods .py (.property :: ms) = countMethods .py ms ∧
    countMethods .ts (.setter :: ms) = countMethods .ts ms + 1 := by
  simp [countMethods, countable, List.filter_cons]

/-- non-vacuity -/
example : countMethods .py [.pub, .priv, .dunder, .ctor, .property, .static, .pub, .asyncPub] = 4 ∧
    countMethods .ts [.pub, .priv, .ctor, .property, .static] = 3 ∧ countMethods .rs [.ctor, .pub, .priv] = 2 ∧
    evaluate ⟨2, 10, true⟩ 3 11 true = [.methods 3 2, .lines 11 10, .keyword] ∧
    countLoc .py [.code, .blank, .comment, .code] = 2 ∧ countLoc .ts [.code, .blank, .comment, .code] = 2 := by decide

end ThaiLintModel.C16
