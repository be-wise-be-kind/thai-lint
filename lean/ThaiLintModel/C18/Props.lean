import ThaiLintModel.C18.Model
namespace ThaiLintModel.C18

section RulePair
variable (m : Pat → Bool) (deny allow : Option (List Pat)) (onDeny : Pat → V) (onAllow : V)

/-- "deny first, then allow": what `checkGlobalPatterns`, `checkGlobalDeny` (no allow list) and `checkDirectory`
    (on its governing rule) do with one rule pair, each reporting through its own constructors -/
def denyThenAllow : List V :=
  match deny.bind (firstMatch m) with
  | some p => [onDeny p]
  | none =>
    match allow with
    | some al => if al.any m then [] else [onAllow]
    | none => []

theorem isSome_bind_firstMatch : (deny.bind (firstMatch m)).isSome = denyHit m deny := by
  cases deny with
  | none => rfl
  | some d => exact List.isSome_find?

theorem denyThenAllow_eq :
    ∃ v, denyThenAllow m deny allow onDeny onAllow = if ruleViolated m deny allow then [v] else [] := by
  unfold denyThenAllow ruleViolated
  rw [← isSome_bind_firstMatch]
  cases deny.bind (firstMatch m) with
  | some p => exact ⟨onDeny p, rfl⟩
  | none =>
    refine ⟨onAllow, ?_⟩
    cases allow with
    | none => rfl
    | some al => cases hal : al.any m <;> simp [allowMiss, hal]

variable {m deny allow onDeny onAllow} in
theorem denyThenAllow_eq_nil (h : ruleViolated m deny allow = false) :
    denyThenAllow m deny allow onDeny onAllow = [] := by
  obtain ⟨v, hv⟩ := denyThenAllow_eq m deny allow onDeny onAllow
  rw [hv, h]
  rfl

theorem length_denyThenAllow_le_one : (denyThenAllow m deny allow onDeny onAllow).length ≤ 1 := by
  obtain ⟨v, hv⟩ := denyThenAllow_eq m deny allow onDeny onAllow
  rw [hv]
  split
  · exact Nat.le_refl 1
  · exact Nat.zero_le 1

end RulePair

theorem checkGlobalPatterns_eq (m : Pat → Bool) (gp : Option (List Pat) × Option (List Pat)) :
    checkGlobalPatterns m gp = denyThenAllow m gp.1 gp.2 .globalDeny .globalAllow := rfl

/-- one allow/deny pair produces a violation iff the pair is violated (deny taking precedence) -/
theorem pair_exact (m : Pat → Bool) (deny allow : Option (List Pat)) :
    (!(checkGlobalPatterns m (deny, allow)).isEmpty) = ruleViolated m deny allow := by
  obtain ⟨v, hv⟩ := denyThenAllow_eq m deny allow .globalDeny .globalAllow
  rw [checkGlobalPatterns_eq, hv]
  cases ruleViolated m deny allow <;> rfl

section FindRule
variable (ca : Bool) (path : Str)

theorem findRule_cons (x : DirRule) (rest : List DirRule) (best : Option (DirRule × Nat)) :
    ∃ best', findRule ca path (x :: rest) best = findRule ca path rest best' ∧
      (best' = best ∨ ∃ dx, pathMatch ca x.key path = some dx ∧ best' = some (x, dx)) := by
  rw [findRule]
  cases pathMatch ca x.key path with
  | none => exact ⟨best, rfl, Or.inl rfl⟩
  | some dx =>
    match best with
    | none => exact ⟨_, rfl, Or.inr ⟨dx, rfl, rfl⟩⟩
    | some (_, bd) =>
      dsimp only
      split
      · exact ⟨_, rfl, Or.inr ⟨dx, rfl, rfl⟩⟩
      · exact ⟨_, rfl, Or.inl rfl⟩

/-- `findRule` returns a rule of the list whose key matches the path -/
theorem findRule_mem {dirs : List DirRule} {best : Option (DirRule × Nat)} {r : DirRule} {d : Nat}
    (h : findRule ca path dirs best = some (r, d)) :
    best = some (r, d) ∨ (r ∈ dirs ∧ pathMatch ca r.key path = some d) := by
  induction dirs generalizing best with
  | nil => exact Or.inl h
  | cons x rest ih =>
    obtain ⟨best', hstep, hbest'⟩ := findRule_cons ca path x rest best
    rw [hstep] at h
    rcases ih h with rfl | hrest
    · rcases hbest' with hold | ⟨dx, hm, hnew⟩
      · exact Or.inl hold.symm
      · cases hnew
        exact Or.inr ⟨List.mem_cons_self, hm⟩
    · exact Or.inr (hrest.imp_left (List.mem_cons_of_mem x))

end FindRule

/-- the repaired matcher matches exactly the keys that contain the path -/
theorem isSome_pathMatch_true (key path : Str) : (pathMatch true key path).isSome = contains key path := by
  unfold pathMatch contains
  by_cases hk : (key == ['/']) = true
  · rw [if_pos hk, if_pos hk]
    cases path.contains '/' <;> rfl
  · rw [if_neg hk, if_neg hk, if_pos rfl]
    exact Bool.eq_iff_iff.2 Option.isSome_ite

/-- **Every directory violation comes from a rule that really contains the file** (repaired matcher):
    the governing rule's key is the path itself or a component-wise prefix of it. -/
theorem governing_rule_contains (path : Str) (dirs : List DirRule) (r : DirRule) (d : Nat)
    (h : findRule true path dirs none = some (r, d)) : r ∈ dirs ∧ contains r.key path = true := by
  rcases findRule_mem true path h with hnone | ⟨hmem, hmatch⟩
  · cases hnone
  · refine ⟨hmem, ?_⟩
    rw [← isSome_pathMatch_true, hmatch]
    rfl

/-- **No rules configured: nothing is ever reported** -/
theorem no_rules_no_report (ca : Bool) (m : Pat → Bool) (path : Str) :
    checkAll ca m path ⟨none, none, none⟩ = [] ∧ checkAll ca m path ⟨some [], some [], some (none, none)⟩ = [] :=
  ⟨rfl, rfl⟩

section Parts
variable (ca : Bool) (m : Pat → Bool) (path : Str) (c : Config)

/-- an absent global deny list denies nothing -/
theorem gdPart_eq : gdPart m c = denyThenAllow m c.globalDeny none .globalDeny .globalAllow := by
  unfold gdPart
  cases c.globalDeny <;> rfl

theorem length_dirPart_le_one : (dirPart ca m path c).length ≤ 1 := by
  unfold dirPart
  cases c.directories with
  | none => exact Nat.zero_le 1
  | some ds =>
    simp only [checkDirectory]
    cases findRule ca path ds none with
    | none => exact Nat.zero_le 1
    | some rd => exact length_denyThenAllow_le_one ..

theorem length_gdPart_le_one : (gdPart m c).length ≤ 1 := by
  rw [gdPart_eq]
  exact length_denyThenAllow_le_one ..

theorem length_gpPart_le_one : (gpPart m c).length ≤ 1 := by
  unfold gpPart
  cases c.globalPatterns with
  | none => exact Nat.zero_le 1
  | some g => exact length_denyThenAllow_le_one m g.1 g.2 ..

end Parts

/-- **Files satisfying all applicable rules are never reported**: if no deny pattern matches and every
    allow list that applies has a match, there is no violation. -/
theorem satisfied_no_report (ca : Bool) (m : Pat → Bool) (path : Str) (c : Config)
    (hdir : ∀ ds r d, c.directories = some ds → findRule ca path ds none = some (r, d) → ruleViolated m r.deny r.allow = false)
    (hgd : denyHit m c.globalDeny = false)
    (hgp : ∀ g, c.globalPatterns = some g → ruleViolated m g.1 g.2 = false) :
    checkAll ca m path c = [] := by
  have hdirPart : dirPart ca m path c = [] := by
    unfold dirPart
    cases hd : c.directories with
    | none => rfl
    | some ds =>
      simp only [checkDirectory]
      cases hf : findRule ca path ds none with
      | none => rfl
      | some rd => exact denyThenAllow_eq_nil (hdir ds rd.1 rd.2 hd hf)
  have hgdPart : gdPart m c = [] := by
    rw [gdPart_eq]
    -- `ruleViolated m deny none` unfolds to `denyHit m deny || false`
    exact denyThenAllow_eq_nil ((Bool.or_false _).trans hgd)
  have hgpPart : gpPart m c = [] := by
    unfold gpPart
    cases hg : c.globalPatterns with
    | none => rfl
    | some g => exact denyThenAllow_eq_nil (hgp g hg)
  rw [checkAll, hdirPart, hgdPart, hgpPart]
  rfl

/-- the verdict does not depend on anything but the project-relative path string and the rule set
    (in particular not on which other files exist): `checkAll` is a function of exactly those. -/
theorem depends_only_on_relpath (ca : Bool) (m m' : Pat → Bool) (path : Str) (c : Config) (h : ∀ p, m p = m' p) :
    checkAll ca m path c = checkAll ca m' path c := by
  rw [funext h]

/-- at most one violation per rule family -/
theorem at_most_three (ca : Bool) (m : Pat → Bool) (path : Str) (c : Config) : (checkAll ca m path c).length ≤ 3 := by
  have h1 := length_dirPart_le_one ca m path c
  have h2 := length_gdPart_le_one m c
  have h3 := length_gpPart_le_one m c
  simp only [checkAll, List.length_append]
  omega

/-- finding F18a (string-prefix matching, the code before the repair): the rule for `src` also governs
    `src2/x.py`; the repaired matcher does not -/
theorem F18a_witness :
    (findRule false "src2/x.py".toList [⟨"src".toList, none, some [0]⟩] none).isSome = true ∧
    (findRule true "src2/x.py".toList [⟨"src".toList, none, some [0]⟩] none).isSome = false ∧
    (findRule true "src/x.py".toList [⟨"src".toList, none, some [0]⟩] none).isSome = true := by decide +kernel

/-- non-vacuity: nested rules, the deeper one governs; deny beats allow -/
example : checkAll true (fun p => p == 1) "src/models/a.py".toList
    ⟨some [⟨"src".toList, some [1], none⟩, ⟨"src/models".toList, some [0], some [1]⟩], none, none⟩ = [] ∧
    checkAll true (fun p => p == 1) "src/models/a.py".toList
    ⟨some [⟨"src".toList, none, none⟩, ⟨"src/models".toList, some [1], some [1]⟩], none, none⟩ = [.dirDeny "src/models".toList 1] := by decide +kernel

/-- a key written with a trailing slash is as deep as the same key without it (F18b repaired) -/
theorem keyDepth_trailing_slash (k : Str) : keyDepth (k ++ ['/']) = keyDepth k := by
  unfold keyDepth
  simp [List.reverse_append]

example : keyDepth "src/".toList = 1 ∧ keyDepth "src/models".toList = 2 ∧ countParts "src/".toList = 2 := by decide +kernel

end ThaiLintModel.C18
