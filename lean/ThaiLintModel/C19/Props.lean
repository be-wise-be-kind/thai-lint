import ThaiLintModel.C19.Model
namespace ThaiLintModel.C19

theorem visitList_append (v : Tree → List Finding) : ∀ (a b : TreeList),
    visitList v (TreeList.append a b) = visitList v a ++ visitList v b
  | .nil, _ => rfl
  | .cons t rest, b => by simp only [TreeList.append, visitList, visitList_append v rest b, List.append_assoc]

/-- what the file reports before the example: the enclosing nodes' own verdicts and the code to the left -/
def before (v : Tree → List Finding) : Ctx → Tree → List Finding
  | .hole, _ => []
  | .node l n left inner right, t => v (plug (.node l n left inner right) t) ++ visitList v left ++ before v inner t

/-- … and after it: the code to the right, innermost first -/
def after (v : Tree → List Finding) : Ctx → List Finding
  | .hole => []
  | .node _ _ _ inner right => after v inner ++ visitList v right

/-- **Exact shape of the report for every context** (quiet or not): the example's findings appear unchanged,
    in order and as one block; everything else is determined by the surroundings -/
theorem findings_contiguous (v : Tree → List Finding) (c : Ctx) (t : Tree) :
    visit v (plug c t) = before v c t ++ visit v t ++ after v c := by
  induction c with
  | hole => simp only [plug, before, after, List.nil_append, List.append_nil]
  | node l n left inner right ih =>
    simp only [before, after, plug, visit, visitList_append, visitList, ih, List.append_assoc]

/-- **An embedded example keeps all its findings**: wherever the example is plugged in — under any stack
    of enclosing classes, functions and blocks, before and after any siblings — the findings of the whole
    file contain the example's own findings, in order -/
theorem findings_survive_embedding (v : Tree → List Finding) (c : Ctx) (t : Tree) :
    (visit v t).Sublist (visit v (plug c t)) := by
  rw [findings_contiguous]
  exact (List.sublist_append_right _ _).trans (List.sublist_append_left _ _)

theorem before_after_nil_of_quiet (v : Tree → List Finding) (t : Tree) (c : Ctx)
    (hq : ∀ p ∈ pathNodes c t, v p = []) (hs : quietSiblings v c = true) :
    before v c t = [] ∧ after v c = [] := by
  induction c with
  | hole => exact ⟨rfl, rfl⟩
  | node l n left inner right ih =>
    simp only [quietSiblings, Bool.and_eq_true, decide_eq_true_eq] at hs
    have ⟨hb, ha⟩ := ih (fun p hp => hq p (List.mem_cons_of_mem _ hp)) hs.2
    have hself := hq _ (List.mem_cons_self ..)
    simp only [before, after, hself, hs.1.1, hs.1.2, hb, ha, List.append_nil, and_self]

/-- **… and nothing else appears when the surroundings are quiet**: if the enclosing nodes and the sibling
    code report nothing themselves, the file's findings are exactly the example's — in particular an
    acceptable example (no findings) stays unreported wherever it is placed -/
theorem findings_exact_in_quiet_context (v : Tree → List Finding) (t : Tree) :
    ∀ (c : Ctx), (∀ p ∈ pathNodes c t, v p = []) → quietSiblings v c = true → visit v (plug c t) = visit v t := by
  intro c hq hs
  have ⟨hb, ha⟩ := before_after_nil_of_quiet v t c hq hs
  rw [findings_contiguous, hb, ha, List.nil_append, List.append_nil]

/-- an acceptable example (no findings of its own) stays unreported in every quiet context -/
theorem acceptable_stays_unreported (v : Tree → List Finding) (t : Tree) (c : Ctx) (ht : visit v t = [])
    (hq : ∀ p ∈ pathNodes c t, v p = []) (hs : quietSiblings v c = true) : visit v (plug c t) = [] := by
  rw [findings_exact_in_quiet_context v t c hq hs, ht]

/-- the file never reports fewer findings than the example embedded in it -/
theorem embedding_count_ge (v : Tree → List Finding) (c : Ctx) (t : Tree) :
    (visit v t).length ≤ (visit v (plug c t)).length :=
  (findings_survive_embedding v c t).length_le

/-- every single finding of the example is a finding of the file -/
theorem embedded_finding_reported (v : Tree → List Finding) (c : Ctx) (t : Tree) (f : Finding) (hf : f ∈ visit v t) :
    f ∈ visit v (plug c t) :=
  (findings_survive_embedding v c t).subset hf

/-- an example inside a context inside another context: embeddings compose -/
def Ctx.comp : Ctx → Ctx → Ctx
  | .hole, d => d
  | .node l n left inner right, d => .node l n left (Ctx.comp inner d) right

theorem plug_comp (c d : Ctx) (t : Tree) : plug (c.comp d) t = plug c (plug d t) := by
  induction c with
  | hole => rfl
  | node l n left inner right ih => simp only [Ctx.comp, plug, ih]

/-- wrapping a file that already embeds the example once more keeps the example's findings -/
theorem findings_survive_nested_embedding (v : Tree → List Finding) (c d : Ctx) (t : Tree) :
    (visit v t).Sublist (visit v (plug c (plug d t))) := by
  rw [← plug_comp]
  exact findings_survive_embedding v (c.comp d) t

/-- **Multiplicity**: `k` copies of an example report `k` times the example's findings -/
theorem copies_report_k_times (v : Tree → List Finding) (t : Tree) (k : Nat) :
    visitList v (copies t k) = (List.replicate k (visit v t)).flatten := by
  induction k with
  | zero => rfl
  | succ k ih => simp only [copies, visitList, ih, List.replicate_succ, List.flatten_cons]

/-- **Renaming**: for a verdict that does not look at names, the renamed example reports the same rules on
    the same nodes -/
theorem renaming_invariant (v : Tree → List Finding) (ρ : Nat → Nat) (hblind : ∀ t, v (rename ρ t) = v t) :
    ∀ t, visit v (rename ρ t) = visit v t
  | .node l n cs => by
    have h := hblind (.node l n cs)
    simp only [rename] at h
    simp only [rename, visit, h, renameList_visit cs]
where
  renameList_visit : ∀ cs, visitList v (renameList ρ cs) = visitList v cs
    | .nil => rfl
    | .cons t rest => by
      simp only [renameList, visitList, renaming_invariant v ρ hblind t, renameList_visit rest]

/-- what goes wrong when the walk is *not* full (a matched loop whose body is no longer visited) or the
    verdict is *not* a function of the subtree (a `visited` set keyed by name): the theorem's scheme is
    violated — shown on the smallest tree -/
def verdictLoop : Tree → List Finding
  | .node 1 _ _ => [⟨1, 1⟩]      -- label 1 = a loop that matches the pattern
  | _ => []
def visitNoDescent (v : Tree → List Finding) : Tree → List Finding
  | .node l n cs => if (v (.node l n cs)).isEmpty then v (.node l n cs) ++ (match cs with | .cons t _ => visitNoDescent v t | .nil => []) else v (.node l n cs)
theorem partial_walk_loses_nested_example :
    let inner := Tree.node 1 0 .nil
    let outer := Tree.node 1 0 (.cons inner .nil)
    visit verdictLoop outer = [⟨1, 1⟩, ⟨1, 1⟩] ∧ visitNoDescent verdictLoop outer = [⟨1, 1⟩] := by decide

end ThaiLintModel.C19
