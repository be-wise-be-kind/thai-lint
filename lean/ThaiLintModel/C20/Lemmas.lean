/-
The ordered dictionary of the C20 model (`lookup`, `upsert`, `keys`) and the two key normalisations.
-/
import ThaiLintModel.C20.Model
namespace ThaiLintModel.C20

theorem lookup_upsert {β} (d : List (Str × β)) (k q : Str) (v : β) :
    lookup (upsert d k v) q = if k == q then some v else lookup d q := by
  induction d with
  | nil => rfl
  | cons h t ih =>
    obtain ⟨k', v'⟩ := h
    by_cases hk : k' = k
    · subst hk
      by_cases hq : k' = q <;> simp [upsert, lookup, hq]
    · by_cases hq : k' = q
      · subst hq
        simp [upsert, lookup, hk, Ne.symm hk]
      · simp [upsert, lookup, hk, hq, ih]

def keys {β} (d : List (Str × β)) : List Str := d.map (·.1)

theorem lookup_isSome_iff {β} (d : List (Str × β)) (q : Str) : (lookup d q).isSome = true ↔ q ∈ keys d := by
  induction d with
  | nil => simp [lookup, keys]
  | cons h t ih =>
    obtain ⟨k', v'⟩ := h
    rw [keys, List.map_cons, List.mem_cons, ← keys, ← ih, lookup]
    by_cases hq : k' = q
    · simp [hq]
    · simp [hq, Ne.symm hq]

theorem keys_upsert {β} (d : List (Str × β)) (k : Str) (v : β) (x : Str) :
    x ∈ keys (upsert d k v) ↔ x = k ∨ x ∈ keys d := by
  rw [← lookup_isSome_iff, ← lookup_isSome_iff, lookup_upsert]
  by_cases hx : k = x
  · simp [hx]
  · simp [hx, Ne.symm hx]

theorem nodup_upsert {β} (d : List (Str × β)) (k : Str) (v : β) (h : (keys d).Nodup) : (keys (upsert d k v)).Nodup := by
  induction d with
  | nil => simp [upsert, keys]
  | cons hd t ih =>
    obtain ⟨k', v'⟩ := hd
    rw [keys, List.map_cons, List.nodup_cons, ← keys] at h
    by_cases hk : k' = k
    · subst hk
      simpa [upsert, keys] using h
    · have hk' : k' ∉ keys (upsert t k v) := by
        rw [keys_upsert]
        exact not_or.mpr ⟨hk, h.1⟩
      rw [upsert, if_neg (by simpa using hk), keys, List.map_cons, List.nodup_cons]
      exact ⟨hk', ih h.2⟩

theorem lookup_mem {β} (d : List (Str × β)) (k : Str) (v : β) (h : lookup d k = some v) : (k, v) ∈ d := by
  induction d with
  | nil => cases h
  | cons hd t ih =>
    obtain ⟨k', v'⟩ := hd
    rw [lookup] at h
    split at h
    next hk =>
      rw [← eq_of_beq hk, ← Option.some.inj h]
      exact List.mem_cons_self ..
    next => exact List.mem_cons_of_mem _ (ih h)

theorem mem_lookup {β} (d : List (Str × β)) (h : (keys d).Nodup) (k : Str) (v : β) (hm : (k, v) ∈ d) : lookup d k = some v := by
  induction d with
  | nil => cases hm
  | cons hd t ih =>
    obtain ⟨k', v'⟩ := hd
    rw [keys, List.map_cons, List.nodup_cons, ← keys] at h
    rcases List.mem_cons.mp hm with heq | hm'
    · cases heq
      simp [lookup]
    · have hne : k' ≠ k := fun hk => h.1 (List.mem_map.mpr ⟨(k, v), hm', hk.symm⟩)
      simpa [lookup, hne] using ih h.2 hm'

def nk (c : Char) : Char := if c == '-' then '_' else c
def ns (c : Char) : Char := if c == '_' then '-' else c

theorem normKey_eq (k : Str) : normKey k = k.map nk := rfl
theorem normSection_eq (k : Str) : normSection k = k.map ns := rfl

theorem nk_idem (c : Char) : nk (nk c) = nk c := by
  by_cases h : c = '-'
  · subst h
    rfl
  · simp [nk, h]

theorem nk_ns (c : Char) : nk (ns c) = nk c := by
  by_cases h : c = '_'
  · subst h
    rfl
  · simp [ns, h]

theorem ns_nk (c : Char) : ns (nk c) = ns c := by
  by_cases h : c = '-'
  · subst h
    rfl
  · simp [nk, h]

theorem normKey_idem (k : Str) : normKey (normKey k) = normKey k := by
  simp only [normKey_eq, List.map_map, Function.comp_def, nk_idem]

theorem normKey_normSection (k : Str) : normKey (normSection k) = normKey k := by
  simp only [normKey_eq, normSection_eq, List.map_map, Function.comp_def, nk_ns]

theorem normSection_normKey (k : Str) : normSection (normKey k) = normSection k := by
  simp only [normKey_eq, normSection_eq, List.map_map, Function.comp_def, ns_nk]

/-- the two normalisations identify the same spellings, each undoing what the other does -/
theorem norm_iff (a b : Str) : normSection a = normSection b ↔ normKey a = normKey b := by
  constructor
  · intro h
    rw [← normKey_normSection a, h, normKey_normSection]
  · intro h
    rw [← normSection_normKey a, h, normSection_normKey]

end ThaiLintModel.C20
