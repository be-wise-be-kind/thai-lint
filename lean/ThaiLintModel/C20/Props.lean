import ThaiLintModel.C20.Lemmas
namespace ThaiLintModel.C20

/-! ## Part I — `init-config` on an existing file -/

theorem keepsSettings_iff {V} [DecidableEq V] (old : Doc V) (new : Option (Doc V)) :
    keepsSettings old new = true ↔ ∃ d', new = some d' ∧ ∀ kv ∈ old, lookup d' kv.1 = some kv.2 := by
  cases new <;> simp [keepsSettings]

/-- what the repaired `performMerge` has checked before it writes: the file parsed, the added sections
    are the missing ones, and the merged text parses to a document that keeps the settings -/
theorem performMerge_written {V} [DecidableEq V] (yaml : Str → Option (Doc V)) (names : List Str) (tmpl : List Line) (ex m : Str) (added : List Str)
    (h : performMerge true yaml names tmpl ex = .written m added) :
    ∃ d d', yaml ex = some d ∧ yaml m = some d' ∧
      added = identifyMissing true (d.map (·.1)) ((extractSections names tmpl).map (·.1)) ∧
      ∀ kv ∈ d, lookup d' kv.1 = some kv.2 := by
  unfold performMerge at h
  cases hy : yaml ex with
  | none => simp [hy] at h
  | some d =>
    simp only [hy] at h
    split at h
    · cases h
    · split at h
      · cases h
      · rename_i hguard
        simp only [Outcome.written.injEq] at h
        rw [h.1] at hguard
        obtain ⟨d', hd', hall⟩ := (keepsSettings_iff d (yaml m)).mp (by simpa using hguard)
        exact ⟨d, d', rfl, hd', h.2.symm, hall⟩

/-- **Nothing is lost, the result is valid YAML** (repaired code, any YAML parser): whenever the merge
    writes the file, the new content parses and every pre-existing top-level setting has its old value. -/
theorem written_keeps_settings {V} [DecidableEq V] (yaml : Str → Option (Doc V)) (names : List Str) (tmpl : List Line) (ex m : Str) (added : List Str)
    (h : performMerge true yaml names tmpl ex = .written m added) :
    ∃ d d', yaml ex = some d ∧ yaml m = some d' ∧ ∀ kv ∈ d, lookup d' kv.1 = some kv.2 := by
  obtain ⟨d, d', hd, hd', _, hall⟩ := performMerge_written yaml names tmpl ex m added h
  exact ⟨d, d', hd, hd', hall⟩

/-- the text of the existing file is kept, in order: new text is inserted at one place (before the
    GLOBAL SETTINGS banner) or appended after the last non-blank character -/
theorem merge_keeps_text (ex : Str) (missing : List Str) :
    ∃ pre ins post, mergeText ex missing = pre ++ ins ++ post ∧ (pre ++ post = ex ∨ (post = [] ∧ pre = rstrip ex)) := by
  unfold mergeText
  split
  · exact ⟨ex, [], [], by simp, Or.inl (by simp)⟩
  · split
    next p _ =>
      exact ⟨ex.take (p + 1), joinWith ['\n'] missing ++ ['\n', '\n'], ex.drop (p + 1), by simp [List.append_assoc],
        Or.inl (List.take_append_drop _ _)⟩
    next =>
      exact ⟨rstrip ex, ['\n', '\n'] ++ joinWith ['\n'] missing ++ ['\n'], [], by simp [List.append_assoc], Or.inr ⟨rfl, rfl⟩⟩

theorem mem_identifyMissing (existingKeys all : List Str) (n : Str) :
    n ∈ identifyMissing true existingKeys all ↔ n ∈ all ∧ ∀ k ∈ existingKeys, normSection k ≠ normSection n := by
  simp [identifyMissing]

/-- **Only missing sections are added, none shadows a user section** (repaired code): an added section's
    name differs from every existing key even after hyphen/underscore normalisation -/
theorem added_do_not_shadow (existingKeys all : List Str) :
    ∀ n ∈ identifyMissing true existingKeys all, n ∈ all ∧ ∀ k ∈ existingKeys, normKey k ≠ normKey n := by
  intro n hn
  obtain ⟨hall, hne⟩ := (mem_identifyMissing existingKeys all n).mp hn
  exact ⟨hall, fun k hk heq => hne k hk ((norm_iff k n).mpr heq)⟩

/-- finding F20a (before the repair): the user's `magic_numbers:` section did not count, a second
    `magic-numbers:` block of template defaults was appended and won after normalisation -/
theorem F20a_witness :
    identifyMissing false ["magic_numbers".toList, "nesting".toList] ["magic-numbers".toList, "nesting".toList, "srp".toList] = ["magic-numbers".toList, "srp".toList] ∧
    identifyMissing true ["magic_numbers".toList, "nesting".toList] ["magic-numbers".toList, "nesting".toList, "srp".toList] = ["srp".toList] := by
  decide +kernel

/-- **Every pre-existing setting stays in effect**: in the merged file, the only values stored under a
    spelling of an existing key are that key's old value (so the normalised configuration the linters
    see is unchanged for it), provided the merged document's keys are the old ones and the added ones
    and the user had not spelled one section in two ways. -/
theorem settings_stay_in_effect {V} [DecidableEq V] (d d' : Doc V) (added : List Str)
    (hkeep : ∀ kv ∈ d, lookup d' kv.1 = some kv.2)
    (hadded : ∀ n ∈ added, ∀ k ∈ keys d, normKey k ≠ normKey n)
    (hkeys : ∀ k' ∈ keys d', k' ∈ keys d ∨ k' ∈ added)
    (hnd' : (keys d').Nodup) (hnd : (keys d).Nodup)
    (huniq : ∀ k1 ∈ keys d, ∀ k2 ∈ keys d, normKey k1 = normKey k2 → k1 = k2) :
    ∀ kv ∈ d, ∀ kv' ∈ d', normKey kv'.1 = normKey kv.1 → kv'.2 = kv.2 := by
  intro kv hkv kv' hkv' hnorm
  have hk : kv.1 ∈ keys d := List.mem_map_of_mem hkv
  have hk' : kv'.1 ∈ keys d' := List.mem_map_of_mem hkv'
  rcases hkeys _ hk' with h1 | h1
  · have heq : kv'.1 = kv.1 := huniq _ h1 _ hk hnorm
    have l2 := mem_lookup d' hnd' kv'.1 kv'.2 hkv'
    rw [heq, hkeep kv hkv] at l2
    exact (Option.some.inj l2).symm
  · exact absurd hnorm.symm (hadded _ h1 _ hk)

/-- **Running it again changes nothing**: once every added section is a key of the merged document, the
    second run finds nothing missing. -/
theorem second_run_complete (dKeys dKeys' all : List Str)
    (hsub : ∀ k ∈ dKeys, k ∈ dKeys') (hadded : ∀ n ∈ identifyMissing true dKeys all, n ∈ dKeys') :
    identifyMissing true dKeys' all = [] := by
  rw [List.eq_nil_iff_forall_not_mem]
  intro s hs
  obtain ⟨hall, hne⟩ := (mem_identifyMissing dKeys' all s).mp hs
  -- nothing in `dKeys'` is a spelling of `s`, so nothing in `dKeys` was: `s` was added, and is in `dKeys'`
  have hmiss : s ∈ identifyMissing true dKeys all :=
    (mem_identifyMissing dKeys all s).mpr ⟨hall, fun k hk => hne k (hsub k hk)⟩
  exact hne s (hadded s hmiss) rfl

theorem complete_means_untouched {V} [DecidableEq V] (yaml : Str → Option (Doc V)) (names : List Str) (tmpl : List Line) (ex : Str) (d : Doc V)
    (hy : yaml ex = some d) (h : identifyMissing true (d.map (·.1)) ((extractSections names tmpl).map (·.1)) = []) :
    performMerge true yaml names tmpl ex = .complete := by
  unfold performMerge
  simp [hy, h]

/-- **Running init-config again changes nothing**: if the first run wrote `m`, and the parser sees in `m` the
    old keys and the keys of the added sections, the second run answers "already complete" and writes nothing -/
theorem second_run_is_noop {V} [DecidableEq V] (yaml : Str → Option (Doc V)) (names : List Str) (tmpl : List Line) (ex m : Str) (added : List Str)
    (h : performMerge true yaml names tmpl ex = .written m added)
    (hadded : ∀ d', yaml m = some d' → ∀ n ∈ added, n ∈ d'.map (·.1)) :
    performMerge true yaml names tmpl m = .complete := by
  obtain ⟨d, d', _, hd', hmiss, hall⟩ := performMerge_written yaml names tmpl ex m added h
  apply complete_means_untouched yaml names tmpl m d' hd'
  apply second_run_complete (d.map (·.1)) (d'.map (·.1))
  · intro k hk
    obtain ⟨kv, hkv, rfl⟩ := List.mem_map.mp hk
    exact List.mem_map_of_mem (f := (·.1)) (lookup_mem d' kv.1 kv.2 (hall kv hkv))
  · rw [← hmiss]
    exact hadded d' hd'

/-! ### the template regenerated from /repo -/

def names : List Str := Gen.Config.linterSections.map String.toList
def template : List Line := Gen.Config.templateLines.map String.toList

/-- a line that starts a top-level key of a block-style document -/
def topKey (l : Line) : Option Str :=
  match l with
  | c :: _ => if c.isAlphanum || c == '_' then (if l.contains ':' then some (l.takeWhile (· != ':')) else none) else none
  | [] => none

/-- every linter section of the shipped template is extracted, in order, and its text defines exactly
    one top-level key: its own name — so the text inserted for a section adds that key and no other -/
theorem template_sections :
    (extractSections names template).map (·.1) = names ∧
    (extractSections names template).all (fun s => s.2.filterMap topKey == [s.1]) = true ∧
    names.length = 16 := by
  decide +kernel

/-! ## Part II — `config set / get / reset` -/

/-- what `load` always produces and `upsert` under a normalised key keeps: distinct, normalised keys -/
def WF (c : Cfg) : Prop := (keys c).Nodup ∧ ∀ k ∈ keys c, normKey k = k

theorem wf_defaults : WF defaults := by
  unfold WF
  decide +kernel

theorem wf_upsert (c : Cfg) (k : Str) (v : Val) (h : WF c) (hk : normKey k = k) : WF (upsert c k v) := by
  refine ⟨nodup_upsert c k v h.1, ?_⟩
  intro x hx
  rcases (keys_upsert c k v x).mp hx with h1 | h1
  · rw [h1]
    exact hk
  · exact h.2 x h1

theorem wf_mergeCfg (base over : Cfg) (hbase : WF base) (hover : ∀ kv ∈ over, normKey kv.1 = kv.1) :
    WF (mergeCfg base over) := by
  induction over generalizing base with
  | nil => exact hbase
  | cons kv rest ih =>
    exact ih _ (wf_upsert base kv.1 kv.2 hbase (hover kv (List.mem_cons_self ..)))
      (fun kv' hkv' => hover kv' (List.mem_cons_of_mem _ hkv'))

theorem normalizeKeys_eq (c : Cfg) : normalizeKeys c = mergeCfg [] (c.map fun kv => (normKey kv.1, kv.2)) := by
  rw [mergeCfg, List.foldl_map]
  rfl

theorem wf_normalizeKeys (c : Cfg) : WF (normalizeKeys c) := by
  rw [normalizeKeys_eq]
  apply wf_mergeCfg [] _ ⟨List.nodup_nil, nofun⟩
  intro kv hkv
  obtain ⟨kv', _, rfl⟩ := List.mem_map.mp hkv
  exact normKey_idem kv'.1

theorem wf_load (file : Option Cfg) : WF (load file) := by
  cases file with
  | none => exact wf_defaults
  | some c => exact wf_mergeCfg defaults _ wf_defaults (fun kv hkv => (wf_normalizeKeys c).2 kv.1 (List.mem_map_of_mem hkv))

/-- `lookup over` finds the first entry for a key, `mergeCfg` lets the last one win: they agree when the keys of
    `over` are distinct -/
theorem lookup_mergeCfg (base over : Cfg) (h : (keys over).Nodup) (q : Str) :
    lookup (mergeCfg base over) q = (lookup over q).or (lookup base q) := by
  induction over generalizing base with
  | nil => rfl
  | cons kv rest ih =>
    obtain ⟨k, v⟩ := kv
    rw [keys, List.map_cons, List.nodup_cons, ← keys] at h
    show lookup (mergeCfg (upsert base k v) rest) q = _
    rw [ih _ h.2, lookup_upsert, lookup]
    split
    next hk =>
      -- `k` occurs only once, so `rest` has no later value for it
      have hnone : lookup rest q = none := by
        rw [← Option.not_isSome_iff_eq_none, lookup_isSome_iff, ← eq_of_beq hk]
        exact h.1
      rw [hnone]
      rfl
    next => rfl

theorem lookup_load (c : Cfg) (q : Str) :
    lookup (load (some c)) q = (lookup (normalizeKeys c) q).or (lookup defaults q) :=
  lookup_mergeCfg defaults (normalizeKeys c) (wf_normalizeKeys c).1 q

theorem lookup_normalizeKeys_of_wf (c : Cfg) (h : WF c) (q : Str) : lookup (normalizeKeys c) q = lookup c q := by
  have hmap : (c.map fun kv => (normKey kv.1, kv.2)) = c := by
    rw [List.map_congr_left (g := id), List.map_id]
    intro kv hkv
    rw [h.2 kv.1 (List.mem_map_of_mem hkv)]
    rfl
  rw [normalizeKeys_eq, hmap, lookup_mergeCfg [] c h.1]
  exact Option.or_none

theorem validate_ext (r : Bool) (a b : Cfg) (h : ∀ q, lookup a q = lookup b q) : validate r a = validate r b := by
  unfold validate reqChk
  simp only [h]

theorem defaults_in_load (file : Option Cfg) (q : Str) (h : (lookup defaults q).isSome = true) : (lookup (load file) q).isSome = true := by
  cases file with
  | none => exact h
  | some c => rw [lookup_load, Option.isSome_or, h, Bool.or_true]

/-- a well-formed configuration that sets every default key loads back as itself -/
theorem lookup_load_of_covers (c : Cfg) (hwf : WF c) (q : Str)
    (hcov : (lookup defaults q).isSome = true → (lookup c q).isSome = true) :
    lookup (load (some c)) q = lookup c q := by
  rw [lookup_load, lookup_normalizeKeys_of_wf c hwf]
  cases hd : lookup defaults q with
  | none => exact Option.or_none
  | some dv => exact Option.or_eq_left_of_isSome (hcov (by rw [hd]; rfl))

theorem lookup_load_defaults (q : Str) : lookup (load (some defaults)) q = lookup defaults q :=
  lookup_load_of_covers defaults wf_defaults q id

/-- the file written by an accepted `set` loads back as exactly what was written -/
theorem load_saved (file : Option Cfg) (k : Str) (v : Val) (hk : normKey k = k) (q : Str) :
    lookup (load (some (upsert (load file) k v))) q = lookup (upsert (load file) k v) q := by
  apply lookup_load_of_covers _ (wf_upsert (load file) k v (wf_load file) hk)
  intro hd
  rw [lookup_upsert]
  split
  · rfl
  · exact defaults_in_load file q hd

/-- a file is usable when it is absent or loads as a valid configuration -/
def Usable (file : Option Cfg) : Prop := file = none ∨ validate true (load file) = true

theorem valid_defaults : validate true defaults = true := by decide +kernel

theorem usable_loads_valid (file : Option Cfg) (hu : Usable file) : validate true (load file) = true := by
  rcases hu with h | h
  · rw [h]
    exact valid_defaults
  · exact h

/-- the load-error guard of `set` and `get` is off exactly on usable files -/
theorem usable_iff_guard (file : Option Cfg) : Usable file ↔ (file.isSome && !validate true (load file)) = false := by
  cases file <;> simp [Usable]

theorem usable_saved (file : Option Cfg) (k : Str) (v : Val) (hk : normKey k = k)
    (hval : validate true (upsert (load file) k v) = true) : Usable (some (upsert (load file) k v)) := by
  right
  rw [validate_ext true _ _ (load_saved file k v hk)]
  exact hval

theorem usable_defaults : Usable (some defaults) := by
  right
  rw [validate_ext true _ _ lookup_load_defaults]
  exact valid_defaults

theorem exec_set (r : Bool) (file : Option Cfg) (k : Str) (v : Val) :
    exec r file (.set k v) =
      if file.isSome && !validate r (load file) then (file, .loadError) else
      if validate r (upsert (load file) (if r then normKey k else k) v) then (some (upsert (load file) (if r then normKey k else k) v), .ok) else (file, .rejected) := rfl

theorem exec_set_of_usable (file : Option Cfg) (k : Str) (v : Val) (hu : Usable file) :
    exec true file (.set k v) =
      if validate true (upsert (load file) (normKey k) v) then (some (upsert (load file) (normKey k) v), .ok) else (file, .rejected) := by
  rw [exec_set, (usable_iff_guard file).mp hu]
  rfl

theorem exec_get_of_usable (file : Option Cfg) (k : Str) (hu : Usable file) :
    exec true file (.get k) =
      match lookup (load file) (normKey k) with
      | some v => (file, .value v)
      | none => (file, .notFound) := by
  rw [exec, (usable_iff_guard file).mp hu]
  rfl

theorem exec_reset_of_usable (file : Option Cfg) (hu : Usable file) : exec true file .reset = (some defaults, .ok) := by
  simp only [exec, usable_loads_valid file hu, Bool.true_or, if_true]

/-- **A rejected value leaves the file unchanged** (any file, any key, any value) -/
theorem set_rejected_unchanged (r : Bool) (file : Option Cfg) (k : Str) (v : Val) :
    (exec r file (.set k v)).2 ≠ .ok → (exec r file (.set k v)).1 = file := by
  rw [exec_set]
  generalize (if r = true then normKey k else k) = key
  split
  · exact fun _ => rfl
  · split
    · exact fun h => absurd rfl h
    · exact fun _ => rfl

/-- an accepted `set` found a usable file and left a usable one, which loads as the updated configuration -/
theorem exec_set_ok (file f' : Option Cfg) (k : Str) (v : Val) (h : exec true file (.set k v) = (f', .ok)) :
    Usable file ∧ Usable f' ∧ ∀ q, lookup (load f') q = lookup (upsert (load file) (normKey k) v) q := by
  rw [exec_set, if_pos rfl] at h
  split at h
  next => cases h
  next hg =>
    split at h
    next hval =>
      rw [← (Prod.mk.inj h).1]
      exact ⟨(usable_iff_guard file).mpr (by simpa using hg), usable_saved file _ v (normKey_idem k) hval,
        load_saved file _ v (normKey_idem k)⟩
    next => cases h

/-- **Every accepted value is returned unchanged by `config get`** after the save/load round trip
    (repaired code; any file, any key spelling) -/
theorem set_then_get (file f' : Option Cfg) (k : Str) (v : Val)
    (h : exec true file (.set k v) = (f', .ok)) : exec true f' (.get k) = (f', .value v) := by
  obtain ⟨_, hu', hload⟩ := exec_set_ok file f' k v h
  rw [exec_get_of_usable f' k hu', hload, lookup_upsert, if_pos (beq_self_eq_true _)]

/-- … and no other key is disturbed -/
theorem set_preserves_others (file f' : Option Cfg) (k k2 : Str) (v : Val)
    (h : exec true file (.set k v) = (f', .ok)) (hne : normKey k2 ≠ normKey k) :
    (exec true f' (.get k2)).2 = (exec true file (.get k2)).2 := by
  obtain ⟨hu, hu', hload⟩ := exec_set_ok file f' k v h
  rw [exec_get_of_usable f' k2 hu', hload, lookup_upsert, if_neg (by simpa using Ne.symm hne),
    exec_get_of_usable file k2 hu]
  cases lookup (load file) (normKey k2) <;> rfl

/-- a check that passed on the value under `q` still passes after `upsert`, unless it now reads the new value -/
theorem chk_upsert (L : Cfg) (k : Str) (v : Val) {q : Str} {chk : Option Val → Bool} (h : chk (lookup L q) = true) :
    chk (lookup (upsert L k v) q) = if k = q then chk (some v) else true := by
  rw [lookup_upsert]
  by_cases hk : k = q <;> simp [hk, h]

theorem req_upsert (L : Cfg) (k : Str) (v : Val) (h : reqChk L = true) : reqChk (upsert L k v) = true := by
  unfold reqChk at *
  rw [List.all_eq_true] at *
  intro x hx
  rw [lookup_upsert]
  split
  · rfl
  · exact h x hx

theorem keys_distinct :
    kLvl ≠ kFmt ∧ kLvl ≠ kRetries ∧ kLvl ≠ kTimeout ∧ kLvl ≠ kName ∧ kFmt ≠ kRetries ∧ kFmt ≠ kTimeout ∧ kFmt ≠ kName ∧
    kRetries ≠ kTimeout ∧ kRetries ≠ kName ∧ kTimeout ≠ kName := by decide +kernel

theorem retriesChk_some (v : Val) : retriesChk true (some v) = match v with | .int z => decide (0 ≤ z) | _ => false := by
  cases v <;> rfl

theorem timeoutChk_some (v : Val) :
    timeoutChk true (some v) = match v with | .int z => decide (0 < z) | .float _ .pos => true | _ => false := by
  cases v with
  | float repr cls => cases cls <;> rfl
  | _ => rfl

theorem nameChk_some (v : Val) : nameChk (some v) = match v with | .str s => !(lstrip s).isEmpty | _ => false := by
  cases v <;> rfl

theorem validate_upsert (L : Cfg) (k' : Str) (v : Val) (hL : validate true L = true) :
    validate true (upsert L k' v) = specValid k' v := by
  simp only [validate, Bool.and_eq_true] at hL
  obtain ⟨⟨⟨⟨⟨hreq, hlvl⟩, hfmt⟩, hretries⟩, htimeout⟩, hname⟩ := hL
  rw [validate, req_upsert L k' v hreq, chk_upsert L k' v hlvl, chk_upsert L k' v hfmt, chk_upsert L k' v hretries,
    chk_upsert L k' v htimeout, chk_upsert L k' v hname, retriesChk_some, timeoutChk_some, nameChk_some]
  obtain ⟨d1, d2, d3, d4, d5, d6, d7, d8, d9, d10⟩ := keys_distinct
  unfold specValid
  -- the keys are pairwise distinct: where `k'` is one of them, the guards of the others are `true`
  by_cases c1 : k' = kLvl
  · rw [c1, if_pos rfl, if_pos rfl, if_neg d1, if_neg d2, if_neg d3, if_neg d4]
    simp only [Bool.true_and, Bool.and_true]
    rfl
  rw [if_neg c1, if_neg c1]
  by_cases c2 : k' = kFmt
  · rw [c2, if_pos rfl, if_pos rfl, if_neg d5, if_neg d6, if_neg d7]
    simp only [Bool.true_and, Bool.and_true]
    rfl
  rw [if_neg c2, if_neg c2]
  by_cases c3 : k' = kRetries
  · rw [c3, if_pos rfl, if_pos rfl, if_neg d8, if_neg d9]
    simp only [Bool.true_and, Bool.and_true]
    rfl
  rw [if_neg c3, if_neg c3]
  by_cases c4 : k' = kTimeout
  · rw [c4, if_pos rfl, if_pos rfl, if_neg d10]
    simp only [Bool.true_and, Bool.and_true]
    rfl
  rw [if_neg c4, if_neg c4]
  by_cases c5 : k' = kName
  · rw [if_pos c5, if_pos c5]
    rfl
  · rw [if_neg c5, if_neg c5]
    rfl

/-- **Only validated values are written**: on a usable file, `config set` accepts a value exactly when
    it is valid for its (normalised) key in the documented sense -/
theorem accepted_iff_valid (file : Option Cfg) (k : Str) (v : Val) (hu : Usable file) :
    (exec true file (.set k v)).2 = .ok ↔ specValid (normKey k) v = true := by
  rw [exec_set_of_usable file k v hu, validate_upsert _ _ _ (usable_loads_valid file hu)]
  cases specValid (normKey k) v <;> simp

/-- `config reset` restores the defaults, whatever was there -/
theorem reset_restores_defaults (file : Option Cfg) (hu : Usable file) (q : Str) :
    (exec true file .reset).1 = some defaults ∧ lookup (load (some defaults)) q = lookup defaults q := by
  rw [exec_reset_of_usable file hu]
  exact ⟨rfl, lookup_load_defaults q⟩

theorem exec_keeps_usable (file : Option Cfg) (op : Op) (hu : Usable file) :
    Usable (exec true file op).1 ∧ (exec true file op).2 ≠ .loadError := by
  cases op with
  | reset =>
    rw [exec_reset_of_usable file hu]
    exact ⟨usable_defaults, nofun⟩
  | get k =>
    rw [exec_get_of_usable file k hu]
    cases lookup (load file) (normKey k) <;> exact ⟨hu, nofun⟩
  | set k v =>
    rw [exec_set_of_usable file k v hu]
    split
    next hval => exact ⟨usable_saved file _ v (normKey_idem k) hval, nofun⟩
    next => exact ⟨hu, nofun⟩

/-- **The file on disk stays usable under every sequence of commands**, and no command ever fails to
    load it -/
theorem run_keeps_usable (ops : List Op) : ∀ file, Usable file →
    Usable (run true file ops).1 ∧ Out.loadError ∉ (run true file ops).2 := by
  induction ops with
  | nil => exact fun file hu => ⟨hu, List.not_mem_nil⟩
  | cons op rest ih =>
    intro file hu
    obtain ⟨hu', hout⟩ := exec_keeps_usable file op hu
    obtain ⟨hu'', houts⟩ := ih _ hu'
    refine ⟨hu'', ?_⟩
    intro hmem
    rcases List.mem_cons.mp hmem with h | h
    · exact hout h.symm
    · exact houts h

/-- finding F20c (before the repair): booleans and NaN passed the numeric validators -/
theorem F20c_witness :
    (exec false none (.set kRetries (.bool true))).2 = .ok ∧ (exec true none (.set kRetries (.bool true))).2 = .rejected ∧
    (exec false none (.set kTimeout (.float "nan".toList .nan))).2 = .ok ∧ (exec true none (.set kTimeout (.float "nan".toList .nan))).2 = .rejected ∧
    specValid kRetries (.bool true) = false ∧ specValid kTimeout (.float "nan".toList .nan) = false := by decide +kernel

/-- finding F20d (before the repair): a value stored under a hyphenated key could not be read back -/
theorem F20d_witness :
    (run false none [.set "my-key".toList (.int 5), .get "my-key".toList]).2 = [.ok, .notFound] ∧
    (run true none [.set "my-key".toList (.int 5), .get "my-key".toList]).2 = [.ok, .value (.int 5)] := by decide +kernel

/-- non-vacuity: a user file with hyphenated section keys is usable, commands behave as stated -/
example : Usable (some [("magic-numbers".toList, .other 1), ("log_level".toList, .str "DEBUG".toList)]) := Or.inr (by decide +kernel)
example : (run true (some [("magic-numbers".toList, .other 1), ("log_level".toList, .str "DEBUG".toList)])
    [.set kTimeout (.int 0), .set kTimeout (.float "2.5".toList .pos), .get kTimeout, .get "magic_numbers".toList, .get kLvl]).2 =
    [.rejected, .ok, .value (.float "2.5".toList .pos), .value (.other 1), .value (.str "DEBUG".toList)] := by decide +kernel

end ThaiLintModel.C20
