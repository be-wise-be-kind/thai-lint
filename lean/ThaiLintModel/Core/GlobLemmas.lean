import ThaiLintModel.Core.Glob
namespace ThaiLintModel

theorem anySuffix_iff (f : List Char → Bool) (s : List Char) :
    anySuffix f s = true ↔ ∃ t, t <:+ s ∧ f t = true := by
  induction s with
  | nil => simp [anySuffix]
  | cons c r ih =>
    simp only [anySuffix, Bool.or_eq_true, ih, List.suffix_cons_iff, or_and_right, exists_or, exists_eq_left]

theorem glob_nil (s : List Char) : glob [] s = s.isEmpty := by simp [glob]

/-- `*p` : some suffix of the string matches `p` -/
theorem glob_star (p s : List Char) : glob ('*' :: p) s = true ↔ ∃ t, t <:+ s ∧ glob p t = true := by
  rw [← anySuffix_iff, glob]

theorem glob_lit_cons (c : Char) (p s : List Char) (hc : isGlobChar c = false) :
    glob (c :: p) s = match s with
      | [] => false
      | d :: t => c == d && glob p t := by
  have hstar : c ≠ '*' := fun h => absurd (h ▸ hc) (by decide)
  have hquest : c ≠ '?' := fun h => absurd (h ▸ hc) (by decide)
  cases s with
  | nil => rw [glob] <;> assumption
  | cons d t => rw [glob] <;> assumption

/-- a literal prefix of the pattern must be a prefix of the string -/
theorem glob_literal_append (l p s : List Char) (hl : literal l = true) :
    glob (l ++ p) s = true ↔ ∃ t, s = l ++ t ∧ glob p t = true := by
  induction l generalizing s with
  | nil => simp
  | cons c l ih =>
    rw [literal, List.all_cons, Bool.and_eq_true, Bool.not_eq_eq_eq_not, Bool.not_true] at hl
    rw [List.cons_append, glob_lit_cons c _ s hl.1]
    cases s with
    | nil => simp
    | cons d t =>
      simp only [Bool.and_eq_true, beq_iff_eq, ih t hl.2, List.cons_append, List.cons.injEq]
      constructor
      · rintro ⟨rfl, u, rfl, hu⟩
        exact ⟨u, ⟨rfl, rfl⟩, hu⟩
      · rintro ⟨u, ⟨rfl, rfl⟩, hu⟩
        exact ⟨rfl, u, rfl, hu⟩

theorem glob_literal (l s : List Char) (hl : literal l = true) : glob l s = true ↔ s = l := by
  have := glob_literal_append l [] s hl
  simpa [glob_nil] using this

theorem glob_star_only (s : List Char) : glob ['*'] s = true :=
  (glob_star [] s).2 ⟨[], List.nil_suffix, rfl⟩

/-- `**` matches what `*` matches -/
theorem glob_star_star (p s : List Char) : glob ('*' :: '*' :: p) s = glob ('*' :: p) s := by
  rw [Bool.eq_iff_iff, glob_star]
  constructor
  · rintro ⟨t, ht, h⟩
    obtain ⟨u, hu, h⟩ := (glob_star p t).1 h
    exact (glob_star p s).2 ⟨u, hu.trans ht, h⟩
  · intro h
    exact ⟨s, List.suffix_rfl, h⟩

/-- `*e` : the string ends with `e` -/
theorem glob_star_literal (e s : List Char) (he : literal e = true) :
    glob ('*' :: e) s = true ↔ e <:+ s := by
  simp only [glob_star, glob_literal e _ he, exists_eq_right]

/-- `n*` : the string starts with `n` -/
theorem glob_literal_star (n s : List Char) (hn : literal n = true) :
    glob (n ++ ['*']) s = true ↔ n <+: s := by
  rw [glob_literal_append n ['*'] s hn]
  constructor
  · rintro ⟨t, rfl, _⟩; exact ⟨t, rfl⟩
  · rintro ⟨t, rfl⟩; exact ⟨t, rfl, glob_star_only t⟩

/-- `**n*` : the string contains `n` -/
theorem glob_star_star_literal_star (n s : List Char) (hn : literal n = true) :
    glob ('*' :: '*' :: (n ++ ['*'])) s = true ↔ n <:+: s := by
  simp only [glob_star_star, glob_star, glob_literal_star n _ hn, List.infix_iff_prefix_suffix, and_comm]

end ThaiLintModel
