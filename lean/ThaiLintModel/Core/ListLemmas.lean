/-
What core lacks about `List.eraseDups` (core has `eraseDups_cons`, `eraseDups_append`, `mem_eraseDups`):
the result has no repetition, a list without repetition is left as it is, and appending elements that
are already there changes nothing.
-/
namespace ThaiLintModel

theorem nodup_eraseDups {α : Type} [BEq α] [LawfulBEq α] : (l : List α) → l.eraseDups.Nodup
  | [] => by simp
  | a :: as => by
    rw [List.eraseDups_cons, List.nodup_cons]
    have : (as.filter fun b => !b == a).length < (a :: as).length :=
      Nat.lt_succ_of_le (List.length_filter_le _ as)
    exact ⟨by simp [List.mem_eraseDups], nodup_eraseDups _⟩
termination_by l => l.length

theorem eraseDups_of_nodup {α : Type} [BEq α] [LawfulBEq α] : (l : List α) → l.Nodup → l.eraseDups = l
  | [], _ => rfl
  | a :: as, h => by
    rw [List.nodup_cons] at h
    -- the filter of `eraseDups_cons` finds nothing to drop
    have hfilter : as.filter (fun b => !b == a) = as :=
      List.filter_eq_self.mpr fun b hb => by
        have : b ≠ a := fun e => h.1 (e ▸ hb)
        simpa using this
    rw [List.eraseDups_cons, hfilter, eraseDups_of_nodup as h.2]

theorem eraseDups_append_of_subset {α : Type} [BEq α] [LawfulBEq α] {as bs : List α} (h : bs ⊆ as) :
    (as ++ bs).eraseDups = as.eraseDups := by
  have hnone : bs.removeAll as = [] := List.filter_eq_nil_iff.mpr fun b hb => by simpa using h hb
  rw [List.eraseDups_append, hnone, List.eraseDups_nil, List.append_nil]

end ThaiLintModel
