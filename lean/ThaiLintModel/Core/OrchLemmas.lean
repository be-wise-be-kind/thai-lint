/-
The equations of the orchestrator model (`Core/Orch.lean`): what each entry point returns, state and
violations at once, on each form of input.  The properties about runs (C07, C08, C10) rewrite with these.
-/
import ThaiLintModel.Core.Orch
namespace ThaiLintModel.Orch

variable {F V E : Type}

theorem St.eq_fresh {s : St E} (h : s.store = []) : s = fresh :=
  congrArg St.mk h

theorem lintLoop_eq (R : Rules F V E) (s : St E) (fs : List F) :
    lintLoop R s fs = ({ store := s.store ++ fs.flatMap R.collect }, fs.flatMap R.perFile) := by
  induction fs generalizing s with
  | nil => simp [lintLoop]
  | cons f fs ih => simp [lintLoop, lintFile, ih]

/-- the sequential run: the per-file findings in list order, then `finalize()` on what was in the stores
    before together with the evidence of every file of the list -/
theorem lintFiles_eq (R : Rules F V E) (P : Policy) (s : St E) (fs : List F) :
    lintFiles R P s fs =
      (if P.keepAfterFinalize then { store := s.store ++ fs.flatMap R.collect } else { store := [] },
       fs.flatMap R.perFile ++ R.finalize (s.store ++ fs.flatMap R.collect)) := by
  rw [lintFiles, lintLoop_eq]

theorem lintFiles_perm (R : Rules F V E) (P : Policy) (s : St E) {fs fs' : List F} (hp : fs'.Perm fs)
    (hfin : ∀ es es' : List E, es'.Perm es → (R.finalize es').Perm (R.finalize es)) :
    (lintFiles R P s fs').2.Perm (lintFiles R P s fs).2 := by
  rw [lintFiles_eq, lintFiles_eq]
  exact (hp.flatMap_right _).append (hfin _ _ ((hp.flatMap_right _).append_left _))

theorem worker_eq (R : Rules F V E) : worker R = R.perFile := rfl

section Parallel
variable {R : Rules F V E} {P : Policy} {s : St E} {w : Nat} {fs done : List F}

theorem lintFilesParallel_nil : lintFilesParallel R P s w [] done = (s, []) := rfl

theorem lintFilesParallel_of_lt (hne : fs ≠ []) (hsmall : fs.length < w * 2) :
    lintFilesParallel R P s w fs done = lintFiles R P s fs := by
  rw [lintFilesParallel, List.isEmpty_eq_false_iff.mpr hne, if_neg Bool.false_ne_true, if_pos hsmall]

/-- the pooled run: the sequential run with the per-file findings in completion order -/
theorem lintFilesParallel_of_not_lt (hne : fs ≠ []) (hbig : ¬ fs.length < w * 2) :
    lintFilesParallel R P s w fs done =
      (if P.keepAfterFinalize then { store := s.store ++ fs.flatMap R.collect } else { store := [] },
       done.flatMap R.perFile ++ R.finalize (s.store ++ fs.flatMap R.collect)) := by
  rw [lintFilesParallel, List.isEmpty_eq_false_iff.mpr hne, if_neg Bool.false_ne_true, if_neg hbig, worker_eq]

/-- futures that complete in the order of submission: the parallel run is the sequential one -/
theorem lintFilesParallel_self (hne : fs ≠ []) : lintFilesParallel R P s w fs fs = lintFiles R P s fs := by
  by_cases hsmall : fs.length < w * 2
  · exact lintFilesParallel_of_lt hne hsmall
  · rw [lintFilesParallel_of_not_lt hne hsmall, lintFiles_eq]

end Parallel

end ThaiLintModel.Orch
